/-
Simulation between grevm's account/slot caches and revm's `CacheAccount` (Model/AcctState):
relation `R`, its initialisation and its preservation by every operation.

revm's entry is read in grevm's vocabulary (`SAcct.g`, `SAcct.slots`); its four transitions then ARE
grevm's, by `rfl`.  Reads have one normal form on both sides (`rd`: cached value, else zero if the
storage is known, else the database), so `R` is: same account, read-equivalent slot maps (`R_iff`).
An operation that replaces the slot map lands in `R.of_eq` whatever was cached before; one that
overlays changed slots is `R.change`, which is where `known_mono_changed` and
`db_zero_of_becomes_known` enter.
-/
import Grevm.Model.AcctState

namespace Grevm.Acct

/-- What the status says about the database (only `load` produces `loaded` / `loadedEmptyEIP161`). -/
structure Inv (db : Db) (a : GAcct) : Prop where
  loaded : a.status = .loaded → a.info = db.info
  empty : a.status = .loadedEmptyEIP161 → ∃ i, db.info = some i ∧ i.isEmpty = true
  noneKnown : a.info = none → a.status.known = true

/-- grevm's caches and revm's cache account agree, seen through a load of the account. -/
structure R (db : Db) (g : G) (s : S) : Prop where
  status : (g.loaded db).status = (s.loaded db).status
  info : (g.loaded db).info = (s.loaded db).info
  reads : ∀ k, g.readVal db k = s.readVal db k
  inv : Inv db (g.loaded db)

theorem known_mono_changed (s : Status) (b : Bool) (h : s.known = true) :
    (s.onChanged b).known = true := by
  cases s <;> first | rfl | cases h

theorem known_created (s : Status) : s.onCreated.known = true := by cases s <;> rfl

theorem known_selfdestructed (s : Status) : s.onSelfdestructed.known = true := by cases s <;> rfl

theorem known_touched (s : Status) : s.onTouchedEmpty.known = true := by cases s <;> rfl

theorem inv_of_known {db : Db} {a : GAcct} (h : a.status.known = true) : Inv db a :=
  ⟨fun e => (by rw [e] at h; cases h), fun e => (by rw [e] at h; cases h), fun _ => h⟩

theorem onChanged_ne_loaded (st : Status) (b : Bool) :
    st.onChanged b ≠ .loaded ∧ st.onChanged b ≠ .loadedEmptyEIP161 := by
  cases st <;> cases b <;> decide

theorem inv_changed {db : Db} {st : Status} {b : Bool} {i : Info} :
    Inv db ⟨some i, st.onChanged b⟩ :=
  ⟨fun h => absurd h (onChanged_ne_loaded st b).1, fun h => absurd h (onChanged_ne_loaded st b).2, nofun⟩

theorem isEmpty_noCodeNonce {i : Info} (h : i.isEmpty = true) : i.noCodeNonce = true := by
  simp only [Info.isEmpty, Info.noCodeNonce, Bool.and_eq_true] at *; exact ⟨h.1.1, h.2⟩

theorem db_zero_of_none {db : Db} (hdb : db.Ok) (h : db.info = none) (k : Nat) : db.slot k = 0 :=
  hdb (by simp [h]) k

theorem db_zero_of_noCodeNonce {db : Db} (hdb : db.Ok) {i : Info} (h : db.info = some i)
    (hi : i.noCodeNonce = true) (k : Nat) : db.slot k = 0 :=
  hdb (by simp [h, hi]) k

/-- When the status turns storage-known by a change, the database holds no slot of the account. -/
theorem db_zero_of_becomes_known {db : Db} (hdb : db.Ok) {a : GAcct} (hinv : Inv db a)
    (h0 : a.status.known = false)
    (h1 : (a.status.onChanged (hadNoCodeNonce a.info)).known = true) (k : Nat) :
    db.slot k = 0 := by
  obtain ⟨info, status⟩ := a
  cases status <;> cases h0
  · -- loaded: the account is the database's, and turns known only if it had neither code nor nonce
    have hi : info = db.info := hinv.loaded rfl
    cases info with
    | none => cases h1
    | some i =>
      exact db_zero_of_noCodeNonce hdb hi.symm
        ((by decide : ∀ b, (Status.loaded.onChanged b).known = true → b = true) _ h1) k
  · -- loadedEmptyEIP161
    obtain ⟨i, hi, he⟩ := hinv.empty rfl
    exact db_zero_of_noCodeNonce hdb hi (isEmpty_noCodeNonce he) k
  · -- changed
    cases h1

theorem satAdd_pos (a b : Nat) (h : b ≠ 0) : satAdd a b ≠ 0 := by
  unfold satAdd umax; split <;> omega

def SAcct.g (a : SAcct) : GAcct := ⟨a.info, a.status⟩

def SAcct.slots (a : SAcct) : Slots := match a.acct with
  | some (_, m) => m
  | none => Slots.none

theorem sLoad_g (db : Db) : (sLoadFromDb db).g = loadFromDb db := by
  unfold sLoadFromDb loadFromDb; split
  · rfl
  · split <;> rfl

theorem inv_load (db : Db) : Inv db (loadFromDb db) := by
  unfold loadFromDb
  split
  · exact inv_of_known rfl
  · rename_i i hi
    split
    · exact ⟨nofun, fun _ => ⟨i, hi, by assumption⟩, nofun⟩
    · exact ⟨fun _ => hi.symm, nofun, nofun⟩

theorem R.loaded_g {db : Db} {g : G} {s : S} (h : R db g s) : (s.loaded db).g = g.loaded db := by
  show (⟨_, _⟩ : GAcct) = _; rw [← h.status, ← h.info]

/-- A slot read: the cached value, else zero if the storage is known, else the database. -/
def rd (x : Option Nat) (κ : Bool) (d : Nat) : Nat := match x with
  | some v => v
  | none => if κ then 0 else d

/-- The storage may become known, provided the database then holds nothing. -/
theorem rd_known (x : Option Nat) {κ κ' : Bool} {d : Nat} (hm : κ = true → κ' = true)
    (hz : κ = false → κ' = true → d = 0) : rd x κ' d = rd x κ d := by
  cases x with
  | some v => rfl
  | none =>
    cases κ with
    | true => rw [hm rfl]
    | false => cases κ' with
      | false => rfl
      | true => exact (hz rfl rfl).symm

/-- Caching what a read returned changes no read. -/
theorem rd_set (m : Slots) (κ : Bool) (d : Nat → Nat) (k j : Nat) :
    rd ((m.set k (rd (m k) κ (d k))) j) κ (d j) = rd (m j) κ (d j) := by
  unfold Slots.set; split
  · subst j; cases m k <;> rfl
  · rfl

theorem G.readVal_eq {db : Db} (hdb : db.Ok) {g : G} (hi : Inv db (g.loaded db)) (k : Nat) :
    g.readVal db k = rd (g.slots k) (g.loaded db).status.known (db.slot k) := by
  obtain ⟨_ | a, m⟩ := g
  · -- not loaded: `G.known` is false, the loaded status is known only if the database has no account
    refine (rd_known (m k) (κ := false) nofun fun _ h => db_zero_of_none hdb ?_ k).symm
    revert h; unfold G.loaded loadFromDb; dsimp only; split
    · intro; assumption
    · split <;> nofun
  · show rd (m k) (a.status.known || a.info.isNone) _ = rd (m k) a.status.known _
    cases ha : a.info with
    | some i => rw [Option.isNone_some, Bool.or_false]
    | none => rw [show a.status.known = true from hi.noneKnown ha]; rfl

theorem S.readVal_eq {db : Db} {s : S} (hi : Inv db (s.loaded db).g) (k : Nat) :
    s.readVal db k = rd ((s.loaded db).slots k) (s.loaded db).status.known (db.slot k) := by
  unfold S.readVal SAcct.slots
  generalize s.loaded db = a at hi ⊢
  obtain ⟨_ | ⟨i, m⟩, st⟩ := a
  · rw [show st.known = true from hi.noneKnown rfl]; rfl
  · rfl

/-- `R` in normal form: the same account, and slot maps that read alike. -/
theorem R_iff {db : Db} (hdb : db.Ok) {g : G} {s : S} :
    R db g s ↔ (s.loaded db).g = g.loaded db ∧ Inv db (g.loaded db) ∧
      ∀ k, rd (g.slots k) (g.loaded db).status.known (db.slot k)
         = rd ((s.loaded db).slots k) (g.loaded db).status.known (db.slot k) := by
  constructor
  · intro h
    refine ⟨h.loaded_g, h.inv, fun k => ?_⟩
    rw [← G.readVal_eq hdb h.inv, h.status, ← S.readVal_eq (h.loaded_g ▸ h.inv)]; exact h.reads k
  · intro ⟨hg, hi, hr⟩
    refine ⟨congrArg GAcct.status hg.symm, congrArg GAcct.info hg.symm, fun k => ?_, hi⟩
    rw [G.readVal_eq hdb hi, S.readVal_eq (hg ▸ hi), hr k, congrArg GAcct.status hg.symm]; rfl

theorem R_init (db : Db) (hdb : db.Ok) : R db G.init S.init :=
  (R_iff hdb).mpr ⟨sLoad_g db, inv_load db, fun k => by
    show rd none _ _ = rd ((sLoadFromDb db).slots k) _ _
    unfold sLoadFromDb SAcct.slots; split
    · rfl
    · split <;> rfl⟩

/-- Loading is invisible: `R_iff` mentions `g` and `s` only through `loaded` and `slots`, which a
    load leaves as they are. -/
theorem R.load {db : Db} (hdb : db.Ok) {g : G} {s : S} (h : R db g s) :
    R db (g.load db) (some (s.loaded db)) :=
  (R_iff hdb).mpr ((R_iff hdb (g := g) (s := s)).mp h)

/-- revm's entry, kept grevm's way (the two equations hold by `rfl` wherever this is used). -/
theorem R.of_eq {db : Db} (hdb : db.Ok) {ga : GAcct} {m : Slots} {sa : SAcct} (hg : sa.g = ga)
    (hm : sa.slots = m) (hi : Inv db ga) : R db ⟨some ga, m⟩ (some sa) :=
  (R_iff hdb).mpr ⟨hg, hi, fun _ => hm ▸ rfl⟩

/-- `change`, `increment` and `drain`: the changed slots are overlaid on both slot maps; the status
    may turn storage-known.  grevm's new account is written as the `change` of REVM's loaded entry
    read grevm's way: `step_refines` rewrites grevm's side to it with `R.loaded_g`, after which the two
    transitions are equal by `rfl`. -/
theorem R.change {db : Db} (hdb : db.Ok) {g : G} {s : S} (h : R db g s) (i : Info) (c : Slots) :
    R db ⟨some ((s.loaded db).g.change i).1, g.slots.extend c⟩ (some ((s.loaded db).change i c).1) := by
  obtain ⟨hg, hi, hr⟩ := (R_iff hdb).mp h
  rw [← hg] at hi hr
  refine (R_iff hdb).mpr ⟨rfl, inv_changed, fun k => ?_⟩
  show rd (g.slots.extend c k) _ _ = rd ((s.loaded db).slots.extend c k) _ _
  unfold Slots.extend
  cases c k with
  | some v => rfl
  | none =>
    have hk := fun x => rd_known x (d := db.slot k) (known_mono_changed (s.loaded db).g.status _)
      fun h0 h1 => db_zero_of_becomes_known hdb hi h0 h1 k
    exact (hk _).trans ((hr k).trans (hk _).symm)

theorem G.read_spec (db : Db) (g : G) (k : Nat) :
    ∃ g', G.step db g (.read k) = some (g', .val (g.readVal db k)) ∧ g'.loaded db = g.loaded db ∧
      ∀ j, g'.readVal db j = g.readVal db j := by
  unfold G.step G.readVal; dsimp only
  cases h : g.slots k with
  | some v => exact ⟨g, rfl, rfl, fun _ => rfl⟩
  | none =>
    refine ⟨_, rfl, rfl, fun j => ?_⟩
    have := rd_set g.slots g.known db.slot k j
    rwa [h] at this

theorem S.read_spec (db : Db) (s : S) (k : Nat) :
    ∃ s', S.step db s (.read k) = (s', .val (s.readVal db k)) ∧ (S.loaded db s').g = (s.loaded db).g ∧
      ∀ j, S.readVal db s' j = s.readVal db j := by
  unfold S.step S.readVal; dsimp only
  generalize s.loaded db = a
  obtain ⟨_ | ⟨i, m⟩, st⟩ := a
  · exact ⟨_, rfl, rfl, fun _ => rfl⟩
  · dsimp only
    cases h : m k with
    | some v => exact ⟨_, rfl, rfl, fun _ => rfl⟩
    | none =>
      refine ⟨_, rfl, rfl, fun j => ?_⟩
      have := rd_set m st.known db.slot k j
      rwa [h] at this

/-- A read returns the same value on both sides and changes neither account nor any later read. -/
theorem sim_read {db : Db} {g : G} {s : S} (hR : R db g s) (k : Nat) {g' : G} {o : Out}
    (hstep : G.step db g (.read k) = some (g', o)) :
    ∃ s', S.step db s (.read k) = (s', o) ∧ R db g' s' := by
  obtain ⟨g1, hg, hl, hgr⟩ := G.read_spec db g k
  obtain ⟨s', hs, hsg, hsr⟩ := S.read_spec db s k
  rw [hg] at hstep; cases hstep
  refine ⟨s', by rw [hs, hR.reads k], ?_⟩
  have hsg' := hsg.trans hR.loaded_g
  exact ⟨by rw [hl, ← hsg']; rfl, by rw [hl, ← hsg']; rfl,
    fun j => by rw [hgr, hsr]; exact hR.reads j, hl ▸ hR.inv⟩

theorem G.applyTouched_cached (g : G) (a : GAcct) (i : Info) :
    (g.applyTouched a i).1.acct.isSome = true := by
  unfold G.applyTouched; split <;> rfl

/-- A touched account without changed slots, committed from the loaded views. -/
theorem sim_applyTouched {db : Db} (hdb : db.Ok) {g : G} {s : S} (hR : R db g s) (i : Info) :
    (g.applyTouched (s.loaded db).g i).2 = ((s.loaded db).applyTouched i).2 ∧
    R db (g.applyTouched (s.loaded db).g i).1 (some ((s.loaded db).applyTouched i).1) := by
  unfold G.applyTouched SAcct.applyTouched
  split
  · exact ⟨rfl, R.of_eq hdb rfl rfl (inv_of_known (known_touched _))⟩
  · exact ⟨rfl, hR.change hdb i Slots.none⟩

end Grevm.Acct
