/- Invariant group 5 of the pipeline model (I2): every finalized transaction holds exactly its
   in-order run, and the committed outcomes are the in-order outcomes. -/
import Grevm.Lemmas.SchedInv3
import Grevm.Lemmas.SchedInv4

namespace Grevm.Sched

open Grevm.Block

def toRun (r : Result) : Run := { reads := toPairs r.reads, out := r.out }

/-- The write list of `j`'s current result. -/
def resWrites (s : State) (j : TxId) : List (Loc × Val) :=
  match s.result j with
  | some r => r.out.writes
  | none => []

structure Inv5 (P : Params) (s : State) : Prop where
  exact : ∀ j, j < s.fin → ∃ r, s.result j = some r ∧ toRun r = ideal P.txs P.base j
  outcomes : s.outcomes = (List.range s.com).map (fun j => (ideal P.txs P.base j).out)

theorem inv5_init (P : Params) : Inv5 P init :=
  ⟨fun _ hj => absurd hj (Nat.not_lt_zero _), rfl⟩

theorem resolve_view {mv : Loc → TxId → Option Entry} {W : TxId → List (Loc × Val)}
    {base : Loc → Val} {i : TxId} {l : Loc}
    (h : ∀ j, j < i → (∀ e, mv l j = some e → lookup (W j) l = some e.val) ∧
                       (mv l j = none → lookup (W j) l = none)) :
    view W base i l = match resolve mv i l with
      | some (_, e) => e.val
      | none => base l := by
  induction i with
  | zero => rfl
  | succ i ih =>
    simp only [view, resolve]
    have hi := h i (Nat.lt_succ_self i)
    cases hm : mv l i with
    | some e => simp [hi.1 e hm]
    | none =>
      simp only [hi.2 hm]
      exact ih (fun j hj => h j (Nat.lt_succ_of_lt hj))

theorem exact_of_allok {P : Params} {s : State} (h2 : Inv2 s) (h3 : Inv3 P s) {i : TxId}
    {r : Result} (hr : s.result i = some r) (hok : OkRes r) (hall : AllOk s i r.reads)
    (hcom : s.com ≤ i)
    (hpre : ∀ j, j < i → ∃ rj, s.result j = some rj ∧ toRun rj = ideal P.txs P.base j ∧
      OkRes rj ∧ Clean (fun l => s.mv l j) rj) :
    toRun r = ideal P.txs P.base i := by
  have hcols : ∀ l j, j < i →
      (∀ e, s.mv l j = some e → lookup (idealWrites P.txs P.base j) l = some e.val) ∧
      (s.mv l j = none → lookup (idealWrites P.txs P.base j) l = none) := by
    intro l j hj
    obtain ⟨rj, hrj, hrun, ⟨o, ho⟩, hclj⟩ := hpre j hj
    have hw : idealWrites P.txs P.base j = rj.writes := by
      simp only [idealWrites, ← hrun, toRun, ho, Out.writes]
    rw [hw]
    exact ⟨fun e he => (hclj.1 l e he).2.2.1, fun hn => lookup_none_iff.mpr (hclj.2 l hn)⟩
  have hvals : ∀ x ∈ toPairs r.reads, x.2 = view (idealWrites P.txs P.base) P.base i x.1 := by
    intro x hx
    obtain ⟨rr, hrr, rfl⟩ := List.mem_map.mp hx
    simp only []
    rw [resolve_view (hcols rr.loc)]
    have hro := hall rr hrr
    have hprov := (h3 i).res_prov r hr rr hrr
    cases hres : resolve s.mv i rr.loc with
    | none =>
      simp only [ReadProv, (readOk_none hres).mp hro] at hprov
      obtain ⟨c, hc, hval⟩ := hprov
      -- the fetch saw a committed cache in which no transaction below `c ≤ com ≤ i` wrote the
      -- location (else the column of that transaction would hold an entry and resolution would
      -- not miss), i.e. the block-start value
      refine hval.trans (cval_base fun j hj rj hrj w o ho => ?_)
      have hji : j < i := Nat.lt_of_lt_of_le hj (Nat.le_trans hc hcom)
      obtain ⟨rj', hrj', _, ⟨o', ho'⟩, hclj⟩ := hpre j hji
      cases hrj.symm.trans hrj'; cases ho.symm.trans ho'
      exact lookup_none_iff.mpr (hclj.2 rr.loc (resolve_none hres j hji))
    | some p =>
      obtain ⟨k, e⟩ := p
      simp only [ReadProv, ((readOk_some hres).mp hro).2] at hprov
      obtain ⟨_, w, hw, hl⟩ := hprov
      obtain ⟨_, hmk, _⟩ := resolve_some hres
      obtain ⟨w', hw', hl'⟩ := (h2 k).entry rr.loc e hmk
      cases hw.symm.trans hw'
      exact Option.some.inj (hl.symm.trans hl')
  rw [ideal_eq]
  exact (consistent_exec ((h3 i).cons_res r hr hok) hvals).symm

/-- The heart of the safety argument: at the instant a transaction is finalized, its recorded run
    is its in-order run. -/
theorem finalize_sound {P : Params} {s : State} (h1 : Inv1 P s) (h2 : Inv2 s) (h3 : Inv3 P s)
    (h4 : Inv4 s) (h5 : Inv5 P s) (hp : s.phase s.fin = .idle) (hst : s.status s.fin = .unconfirmed)
    (hg : s.uts s.fin > max s.lower (s.lts s.fin)) :
    ∃ r, s.result s.fin = some r ∧ toRun r = ideal P.txs P.base s.fin := by
  obtain ⟨r, hr, hok, _⟩ := (h2 s.fin).clean hp (by simp [hst]) (by simp [hst])
  refine ⟨r, hr, exact_of_allok h2 h3 hr hok ?_ h1.com_le.1 fun j hj => ?_⟩
  · -- no rewind covering `fin` can be published, owed or fetched: the guard excludes the first,
    -- the frozen prefix the others
    refine ((h4 s.fin).unconf hp hst r hr).resolve_right ?_
    rintro (⟨k, hk, hlt⟩ | ⟨j, hj, ho⟩ | ⟨j, k, ts, st, hj, hpj, hlt⟩)
    · exact Nat.lt_asymm hlt (h1.guard_lt hk hg)
    · rw [h1.fin_idle hj] at ho; exact ho
    · cases (h1.fin_idle hj).symm.trans hpj
  · have hf := (h1.fin_status j).mpr hj
    obtain ⟨rj, hrj, hrun⟩ := h5.exact j hj
    obtain ⟨rj', hrj', hc⟩ := (h2 j).clean (h1.fin_idle hj) (by simp [hf]) (by simp [hf])
    cases hrj.symm.trans hrj'
    exact ⟨rj, hrj, hrun, hc⟩

theorem inv5_step {P : Params} {s s' : State} (h1 : Inv1 P s) (h2 : Inv2 s) (h3 : Inv3 P s)
    (h4 : Inv4 s) (h : Inv5 P s) (hs : Step P s s') : Inv5 P s' := by
  have hold : ∀ j, j < s.fin → ∃ r, s'.result j = some r ∧ toRun r = ideal P.txs P.base j := by
    intro j hj
    obtain ⟨r, hr, hrun⟩ := h.exact j hj
    exact ⟨r, (step_frozen h1 hs j hj).1.trans hr, hrun⟩
  revert hold  -- it mentions `s'`: it has to be part of the motive of `move_cases`
  refine hs.move_cases (move := fun i s' m _ hold => ?move)
    (finalize := fun hi hp hst hg hold => ?finalize) (commit := fun r hc hr hold => ?commit)
  case move => exact ⟨m.fin ▸ hold, m.outcomes ▸ m.com ▸ h.outcomes⟩
  case finalize =>
    refine ⟨fun j hj => ?_, h.outcomes⟩
    rcases Nat.lt_succ_iff_lt_or_eq.mp hj with hlt | rfl
    · exact hold j hlt
    · exact finalize_sound h1 h2 h3 h4 h hp hst hg
  case commit =>
    refine ⟨hold, ?_⟩
    show s.outcomes ++ [r.out] = (List.range (s.com + 1)).map _
    rw [List.range_succ, List.map_append, ← h.outcomes]
    obtain ⟨r', hr', hrun⟩ := h.exact s.com hc
    cases hr.symm.trans hr'
    simp [← hrun, toRun]

theorem inv_reach {P : Params} {s : State} (h : Reach P s) :
    Inv1 P s ∧ Inv2 s ∧ Inv3 P s ∧ Inv4 s ∧ Inv5 P s := by
  induction h with
  | init => exact ⟨inv1_init P, inv2_init, inv3_init P, inv4_init, inv5_init P⟩
  | step _ hs ih =>
    obtain ⟨i1, i2, i3, i4, i5⟩ := ih
    exact ⟨inv1_step i1 hs, inv2_step i1 i2 hs, inv3_step i1 i2 i3 hs, inv4_step i1 i2 i4 hs,
      inv5_step i1 i2 i3 i4 i5 hs⟩

theorem inv_reachable {P : Params} {s : State} (h : Reachable P s) :
    Inv1 P s ∧ Inv2 s ∧ Inv3 P s ∧ Inv4 s ∧ Inv5 P s :=
  inv_reach (reach_of_reachable h)

end Grevm.Sched
