/-
Inductive invariant of the committed-state cache model (`Grevm/Model/Cache.lean`) for the
repaired code (`fixed = true`).
-/
import Grevm.Model.Cache

namespace Grevm.Cache

@[simp] theorem setR_known (s : State) (t : Nat) (p : RPc) : (setR s t p).known = s.known := rfl
@[simp] theorem setR_cache (s : State) (t : Nat) (p : RPc) : (setR s t p).cache = s.cache := rfl
@[simp] theorem setR_logical (s : State) (t : Nat) (p : RPc) :
    (setR s t p).logical = s.logical := rfl
@[simp] theorem setR_dbv (s : State) (t : Nat) (p : RPc) : (setR s t p).dbv = s.dbv := rfl
@[simp] theorem setR_cpc (s : State) (t : Nat) (p : RPc) : (setR s t p).cpc = s.cpc := rfl
@[simp] theorem setR_rpc (s : State) (t : Nat) (p : RPc) (u : Nat) :
    (setR s t p).rpc u = if u = t then p else s.rpc u := rfl
@[simp] theorem serve_setR (s : State) (t : Nat) (p : RPc) : serve (setR s t p) = serve s := rfl

/-- A reader in flight holds what the backing store served under the status it saw, and a status
    seen storage-known stays so. -/
def ROk (known : Bool) (dbv : Nat) : RPc → Prop
  | .fetched v wk => v = (if wk then 0 else dbv) ∧ (wk = true → known = true)
  | _ => True

/-- By commit phase; `srv` is what the cache serves. -/
def COk (srv : Nat) (known : Bool) (logical : Nat) : CPc → Prop
  | .idle => srv = logical
  | .statusSet w => known = true ∧ logical = w.getD 0
  | .pendingWrite v => logical = v
  | .clearedFirst _ => False

structure Inv (s : State) : Prop where
  readers : ∀ t, ROk s.known s.dbv (s.rpc t)
  commit : COk (serve s) s.known s.logical s.cpc

theorem inv_init (dbv : Nat) (known : Bool) : Inv (init dbv known) :=
  ⟨fun _ => trivial, rfl⟩

theorem ROk.mono {k k' : Bool} {d : Nat} {p : RPc} (h : ROk k d p) (hk : k = true → k' = true) :
    ROk k' d p := by
  cases p with
  | fetched v wk => exact ⟨h.1, fun hw => hk (h.2 hw)⟩
  | _ => trivial

/-- The value a reader inserts is what the backing store serves at that moment.  (The left side is
    the `fresh` of `step` at `fixed = true`, in the shape `fun_cases` leaves it in.) -/
theorem fresh_eq {s : State} {v : Nat} {wk : Bool} (h : ROk s.known s.dbv (.fetched v wk))
    (hc : s.cache = none) : (if (true && !wk && s.known) = true then 0 else v) = serve s := by
  obtain ⟨rfl, hk⟩ := h
  rw [serve, hc]
  revert hk
  cases wk <;> cases s.known <;> simp

theorem Inv.setR {s : State} (hi : Inv s) {t : Nat} {p : RPc} (hp : ROk s.known s.dbv p) :
    Inv (setR s t p) := by
  refine ⟨fun u => ?_, hi.commit⟩
  rw [setR_rpc]
  split
  · exact hp
  · exact hi.readers u

/-- A plain update leaves what the cache serves alone: by its guard it makes the account
    storage-known only if the backing store has no storage. -/
theorem serve_update {s : State} {bk : Bool} (hg : ¬(bk && !s.known && s.dbv != 0) = true)
    {l : Nat} {c : CPc} :
    serve { s with known := s.known || bk, logical := l, cpc := c } = serve s := by
  cases hk : s.known <;> cases bk <;> simp_all [serve]

theorem Inv.phase {s : State} (hi : Inv s) {c : CPc} (hc : s.cpc = c) :
    COk (serve s) s.known s.logical c :=
  hc ▸ hi.commit

theorem inv_step {s s' : State} {a : Act} (hi : Inv s) (h : step true s a = some s') :
    Inv s' := by
  have hr := hi.readers
  revert h
  -- one goal for each branch of `step` that returns `some`, in the order of its definition
  fun_cases step true s a <;> intro h <;> try cases h
  -- rLook, hit
  · exact hi.setR trivial
  -- rLook, miss
  · exact hi.setR ⟨rfl, id⟩
  -- rInsert, somebody else filled the cache
  · exact hi.setR trivial
  -- rInsert, cache still empty
  · next t v wk hpc fresh hcache =>
    rw [show fresh = serve s from fresh_eq (hpc ▸ hr t) hcache]
    -- caching the value that is served anyway changes nothing that is served
    exact (Inv.mk hr hi.commit : Inv { s with cache := some (serve s) }).setR trivial
  -- cBegin update, with a slot write
  · next hc bk _ v => exact ⟨fun t => (hr t).mono fun hk => by rw [hk]; rfl, rfl⟩
  -- cBegin update, no slot write
  · next hc bk hg =>
    exact ⟨fun t => (hr t).mono fun hk => by rw [hk]; rfl,
      hc ▸ (serve_update hg).trans (hi.phase hc)⟩
  -- cBegin destroy / create
  · next op hop _ =>
    refine ⟨fun t => (hr t).mono fun _ => rfl, rfl, ?_⟩
    cases op with
    | update slot bk => exact (hop slot bk rfl).elim
    | _ => rfl
  -- cBegin in the original order: excluded by `fixed = true`
  · next hf => exact absurd rfl hf
  -- cClear, slot write to follow
  · next hc => exact ⟨hr, (hi.phase hc).2⟩
  -- cClear, done
  · next hc =>
    refine ⟨hr, ?_⟩
    show (if s.known then 0 else s.dbv) = s.logical
    rw [(hi.phase hc).1, (hi.phase hc).2]
    rfl
  -- cClear in the original order: `clearedFirst` is never reached
  · next hc _ _ => exact (hi.phase hc).elim
  -- likewise
  · next hc _ => exact (hi.phase hc).elim
  -- cWrite
  · next hc => exact ⟨hr, (hi.phase hc).symm⟩

theorem inv_run {as : List Act} {s s' : State} (hi : Inv s) (h : run true s as = some s') :
    Inv s' := by
  induction as generalizing s with
  | nil => cases h; exact hi
  | cons a as ih =>
    rw [run] at h
    split at h
    · cases h
    · next hs => exact ih (inv_step hi hs) h

end Grevm.Cache
