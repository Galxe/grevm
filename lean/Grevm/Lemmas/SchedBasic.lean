/- Basic lemmas for the pipeline model: the update functions, resolution, the read check, the
   committed cache, write lists. -/
import Grevm.Model.Sched
import Grevm.Lemmas.Block

namespace Grevm.Sched

open Grevm.Block

@[simp] theorem updF_same {α : Type} {f : Nat → α} {i : Nat} {v : α} : updF f i v i = v := by
  simp [updF]

theorem updF_ne {α : Type} {f : Nat → α} {i j : Nat} {v : α} (h : j ≠ i) : updF f i v j = f j := by
  simp [updF, h]

@[simp] theorem setMv_same {mv : Loc → TxId → Option Entry} {l : Loc} {i : TxId}
    {e : Option Entry} : setMv mv l i e l i = e := by simp [setMv]

theorem setMv_ne_tx {mv : Loc → TxId → Option Entry} {l l' : Loc} {i j : TxId} {e : Option Entry}
    (h : j ≠ i) : setMv mv l i e l' j = mv l' j := by
  simp [setMv, h]

theorem setMv_ne_loc {mv : Loc → TxId → Option Entry} {l l' : Loc} {i j : TxId} {e : Option Entry}
    (h : l' ≠ l) : setMv mv l i e l' j = mv l' j := by
  simp [setMv, h]

/-- `x` stands for `some _` or for `none`. -/
theorem setMv_col {mv l l' i e x} (h : setMv mv l i e l' i = x) :
    l' = l ∧ e = x ∨ l' ≠ l ∧ mv l' i = x := by
  by_cases hne : l' = l
  · subst hne; rw [setMv_same] at h; exact .inl ⟨rfl, h⟩
  · rw [setMv_ne_loc hne] at h; exact .inr ⟨hne, h⟩

theorem setMv_eq_self {mv l i e} (h : mv l i = e) : setMv mv l i e = mv := by
  funext l' i'
  simp only [setMv]
  split
  · rename_i hc; rw [hc.1, hc.2, h]
  · rfl

theorem of_others {p : TxId → Prop} (i : TxId) (ho : ∀ j, j ≠ i → p j) (hi : p i) (j : TxId) : p j :=
  if hj : j = i then hj ▸ hi else ho j hj

theorem mem_iff_eraseIdx {α : Type} {x r : α} {l : List α} {k : Nat} (hk : l[k]? = some r) :
    x ∈ l ↔ x = r ∨ x ∈ l.eraseIdx k := by
  rw [List.mem_eraseIdx_iff_getElem?, List.mem_iff_getElem?]
  constructor
  · rintro ⟨i, hi⟩
    by_cases hik : i = k
    · rw [hik, hk] at hi; exact .inl (Option.some.inj hi).symm
    · exact .inr ⟨i, hik, hi⟩
  · rintro (rfl | ⟨i, _, hi⟩)
    · exact ⟨k, hk⟩
    · exact ⟨i, hi⟩

theorem resolve_some {mv : Loc → TxId → Option Entry} {i : TxId} {l : Loc} {k : TxId} {e : Entry}
    (h : resolve mv i l = some (k, e)) :
    k < i ∧ mv l k = some e ∧ ∀ k', k < k' → k' < i → mv l k' = none := by
  induction i with
  | zero => cases h
  | succ i ih =>
    simp only [resolve] at h
    split at h
    · rename_i e' he'
      cases h
      exact ⟨Nat.lt_succ_self _, he', fun k' h1 h2 => by omega⟩
    · rename_i hn
      obtain ⟨h1, h2, h3⟩ := ih h
      refine ⟨Nat.lt_succ_of_lt h1, h2, fun k' hk hk' => ?_⟩
      rcases Nat.lt_succ_iff_lt_or_eq.mp hk' with hlt | rfl
      · exact h3 k' hk hlt
      · exact hn

theorem resolve_none {mv : Loc → TxId → Option Entry} {i : TxId} {l : Loc}
    (h : resolve mv i l = none) : ∀ k, k < i → mv l k = none := by
  induction i with
  | zero => intro k hk; omega
  | succ i ih =>
    simp only [resolve] at h
    split at h
    · cases h
    · rename_i hn
      intro k hk
      rcases Nat.lt_succ_iff_lt_or_eq.mp hk with hlt | rfl
      · exact ih h k hlt
      · exact hn

theorem resolve_intro {mv : Loc → TxId → Option Entry} {i : TxId} {l : Loc} {k : TxId} {e : Entry}
    (hk : k < i) (he : mv l k = some e) (hn : ∀ k', k < k' → k' < i → mv l k' = none) :
    resolve mv i l = some (k, e) := by
  induction i with
  | zero => omega
  | succ i ih =>
    simp only [resolve]
    rcases Nat.lt_succ_iff_lt_or_eq.mp hk with hlt | rfl
    · rw [hn i hlt (Nat.lt_succ_self i)]
      exact ih hlt fun k' h1 h2 => hn k' h1 (Nat.lt_succ_of_lt h2)
    · rw [he]

theorem resolve_none_intro {mv : Loc → TxId → Option Entry} {i : TxId} {l : Loc}
    (hn : ∀ k, k < i → mv l k = none) : resolve mv i l = none := by
  induction i with
  | zero => rfl
  | succ i ih =>
    simp only [resolve]
    rw [hn i (Nat.lt_succ_self _)]
    exact ih fun k hk => hn k (Nat.lt_succ_of_lt hk)

theorem resolve_congr {mv mv' : Loc → TxId → Option Entry} {i : TxId} {l : Loc}
    (h : ∀ k, k < i → mv l k = mv' l k) : resolve mv i l = resolve mv' i l := by
  induction i with
  | zero => rfl
  | succ i ih =>
    simp only [resolve]
    rw [h i (Nat.lt_succ_self _)]
    split
    · rfl
    · exact ih fun k hk => h k (Nat.lt_succ_of_lt hk)

theorem resolve_setMv {mv : Loc → TxId → Option Entry} {l l' : Loc} {i j : TxId} {e : Option Entry}
    (h : i ≤ j ∨ l' ≠ l) : resolve (setMv mv l j e) i l' = resolve mv i l' :=
  resolve_congr fun k hk =>
    h.elim (fun h => setMv_ne_tx (by omega)) setMv_ne_loc

theorem readOk_some {mv i k e} {r : ReadRec} (h : resolve mv i r.loc = some (k, e)) :
    readOk mv i r = true ↔ e.est = false ∧ r.ver = some (k, e.inc) := by
  simp [readOk, h]

theorem readOk_none {mv i} {r : ReadRec} (h : resolve mv i r.loc = none) :
    readOk mv i r = true ↔ r.ver = none := by
  simp [readOk, h]

theorem cval_frozen {P : Params} {s s' : State} {c : Nat} {l : Loc}
    (h : ∀ j, j < c → s'.result j = s.result j) : cval P s' c l = cval P s c l := by
  induction c with
  | zero => rfl
  | succ c ih =>
    simp only [cval]
    rw [h c (Nat.lt_succ_self c), ih fun j hj => h j (Nat.lt_succ_of_lt hj)]

theorem cval_congr {P : Params} {s s' : State} (h : s'.result = s.result) (c : Nat) (l : Loc) :
    cval P s' c l = cval P s c l :=
  cval_frozen (fun j _ => by rw [h])

theorem cval_base {P : Params} {s : State} {c : Nat} {l : Loc}
    (h : ∀ j, j < c → ∀ r, s.result j = some r → ∀ w o, r.out = .ok w o → lookup w l = none) :
    cval P s c l = P.base l := by
  induction c with
  | zero => rfl
  | succ c ih =>
    have ih' := ih fun j hj => h j (Nat.lt_succ_of_lt hj)
    simp only [cval]
    split
    · rename_i r hr
      split
      · rename_i w o ho
        rw [h c (Nat.lt_succ_self c) r hr w o ho]
        exact ih'
      · exact ih'
    · exact ih'

theorem mem_writeLocs_iff_exists {w : List (Loc × Val)} {l : Loc} :
    l ∈ writeLocs w ↔ ∃ q ∈ w, q.1 = l := by
  induction w generalizing l with
  | nil => simp [writeLocs]
  | cons p rest ih =>
    simp only [writeLocs, List.mem_cons, exists_eq_or_imp]
    split
    · rename_i h
      rw [ih]
      exact ⟨.inr, fun h' => h'.elim (fun e => e ▸ ih.mp h) id⟩
    · rw [List.mem_cons, ih, eq_comm]

theorem lookup_none_iff {w : List (Loc × Val)} {l : Loc} : lookup w l = none ↔ l ∉ writeLocs w := by
  -- `find?` is `none` exactly when no pair has the key
  have : lookup w l = none ↔ w.find? (fun p => p.1 == l) = none := by
    unfold lookup; split <;> simp [*]
  rw [this, List.find?_eq_none, mem_writeLocs_iff_exists]
  simp only [beq_iff_eq, not_exists, not_and]

theorem mem_writeLocs_iff_lookup {w : List (Loc × Val)} {l : Loc} :
    l ∈ writeLocs w ↔ ∃ v, lookup w l = some v := by
  rw [← Option.ne_none_iff_exists', Ne, lookup_none_iff, Classical.not_not]

theorem writeLocs_nodup (w : List (Loc × Val)) : (writeLocs w).Nodup := by
  induction w with
  | nil => simp [writeLocs]
  | cons p rest ih =>
    simp only [writeLocs]
    split
    · exact ih
    · rename_i h; exact List.nodup_cons.mpr ⟨h, ih⟩

end Grevm.Sched
