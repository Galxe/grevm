/- Invariant group 1 of the pipeline model: logical clock, status/phase coherence, frozen prefix. -/
import Grevm.Lemmas.SchedStep

namespace Grevm.Sched

/-- Which statuses the `tx_states` entry can hold while a worker is in a given phase. -/
def PhaseStatus : Phase → Status → Prop
  | .idle, st => st ≠ .executing ∧ st ≠ .validating
  | .reading _ _ _, st => st = .executing
  | .fetching _ _ _ _, st => st = .executing
  | .publishing _ _ _, st => st = .executing
  | .removing _ _ _, st => st = .executing
  | .errMark _ _ _, st => st = .executing
  | .valPreTs, st => st = .validating
  | .valScan _ _ _ _, st => st = .validating
  | .valMark _, st => st = .validating
  | .tailPreTs _ st', st => (st = .executing ∨ st = .validating) ∧ (st' = .executed ∨ st' = .conflict)
  | .tailLts _ _ st', st => (st = .executing ∨ st = .validating) ∧ (st' = .executed ∨ st' = .conflict)

/-- A rewind started inside `i` targets `i` or `i + 1`: one owed by some `j < i` ends as a bump of
    `lts k`, `k ≤ i`. -/
def TailTarget (i : TxId) : Phase → Prop
  | .tailPreTs k _ => k = i ∨ k = i + 1
  | .tailLts k _ _ => k = i ∨ k = i + 1
  | _ => True

/-- `uts < ts` in a scan: validations of one transaction are serialised, which is why `endScanOk`
    sets `uts i` to exactly `ts`. -/
def PhaseClock (clock : Nat) (uts : Nat) : Phase → Prop
  | .tailLts _ ts _ => ts < clock
  | .valScan ts _ _ _ => ts < clock ∧ uts < ts
  | _ => True

structure Inv1 (P : Params) (s : State) : Prop where
  clk_lts : ∀ k, s.lts k < s.clock
  clk_uts : ∀ k, s.uts k < s.clock
  clk_phase : ∀ i, PhaseClock s.clock (s.uts i) (s.phase i)
  st_phase : ∀ i, PhaseStatus (s.phase i) (s.status i)
  tail_target : ∀ i, TailTarget i (s.phase i)
  fin_status : ∀ j, s.status j = .finality ↔ j < s.fin
  -- with `lts s.fin`, all that the guard of `finalize` has to exceed (`lts_le_guard`)
  lower_ge : ∀ k, k < s.fin → s.lts k ≤ s.lower
  com_le : s.com ≤ s.fin ∧ s.outcomes.length = s.com
  fin_le : s.fin ≤ P.n
  -- used once: no transaction beyond the block is ever validated, so `tailSkip` may drop a rewind
  active_lt : ∀ i, s.status i ≠ .initial → i < P.n

theorem inv1_init (P : Params) : Inv1 P init :=
  ⟨fun _ => Nat.zero_lt_one, fun _ => Nat.zero_lt_one, fun _ => trivial, fun _ => ⟨nofun, nofun⟩,
    fun _ => trivial, fun _ => ⟨nofun, nofun⟩, nofun, ⟨Nat.le_refl _, rfl⟩, Nat.zero_le _,
    fun _ h => absurd rfl h⟩

theorem Inv1.fin_idle {P : Params} {s : State} (h : Inv1 P s) {j : TxId} (hj : j < s.fin) :
    s.phase j = .idle := by
  have := h.st_phase j
  rw [(h.fin_status j).mpr hj] at this
  revert this
  cases s.phase j <;> simp [PhaseStatus]

theorem Inv1.lts_le_guard {P : Params} {s : State} (h : Inv1 P s) {k : Nat} (hk : k ≤ s.fin) :
    s.lts k ≤ max s.lower (s.lts s.fin) := by
  rcases Nat.lt_or_eq_of_le hk with hlt | rfl
  · exact Nat.le_trans (h.lower_ge k hlt) (Nat.le_max_left ..)
  · exact Nat.le_max_right ..

theorem Inv1.guard_lt {P : Params} {s : State} (h : Inv1 P s) {k : Nat} (hk : k ≤ s.fin)
    (hg : s.uts s.fin > max s.lower (s.lts s.fin)) : s.lts k < s.uts s.fin :=
  Nat.lt_of_le_of_lt (h.lts_le_guard hk) hg

theorem PhaseClock.mono {c c' u : Nat} {p : Phase} (h : PhaseClock c u p) (hc : c ≤ c') :
    PhaseClock c' u p := by
  cases p with
  | tailLts => exact Nat.lt_of_lt_of_le h hc
  | valScan => exact ⟨Nat.lt_of_lt_of_le h.1 hc, h.2⟩
  | _ => trivial

/-- Group 1 after a move of `i`: after `hclk`, one hypothesis for each field of `Inv1` that a move
    can affect, under the field's name. -/
theorem Inv1.of_move {P : Params} {s s' : State} {i : TxId} {p' : Phase} {st' : Status} {u' : Nat}
    (h : Inv1 P s) (m : Move s s' i) (hp' : s'.phase i = p') (hs' : s'.status i = st')
    (hu' : s'.uts i = u') (hclk : s.clock ≤ s'.clock) (clk_lts : ∀ k, s'.lts k < s'.clock)
    (clk_uts : u' < s'.clock) (clk_phase : PhaseClock s'.clock u' p')
    (st_phase : PhaseStatus p' st') (tail_target : TailTarget i p')
    (fin_status : st' = .finality ↔ s.status i = .finality)
    (lower_ge : ∀ k, k < s.fin → s'.lts k ≤ s.lower) (active_lt : st' ≠ .initial → i < P.n) :
    Inv1 P s' := by
  subst hp' hs' hu'
  exact {
    clk_lts
    clk_uts := of_others i (fun j hj => by
      rw [m.uts hj]; exact Nat.lt_of_lt_of_le (h.clk_uts j) hclk) clk_uts
    clk_phase := of_others i (fun j hj => by
      rw [m.uts hj, m.phase hj]; exact (h.clk_phase j).mono hclk) clk_phase
    st_phase := of_others i (fun j hj => by
      rw [m.phase hj, m.status hj]; exact h.st_phase j) st_phase
    tail_target := of_others i (fun j hj => by rw [m.phase hj]; exact h.tail_target j) tail_target
    fin_status := fun j => by
      rw [m.fin, ← h.fin_status j]
      by_cases hj : j = i
      · exact hj ▸ fin_status
      · rw [m.status hj]
    lower_ge := by rw [m.fin, m.lower]; exact lower_ge
    com_le := by rw [m.fin, m.com, m.outcomes]; exact h.com_le
    fin_le := by rw [m.fin]; exact h.fin_le
    active_lt := of_others i (fun j hj => by rw [m.status hj]; exact h.active_lt j) active_lt }

/-- Group 1 reads none of `mv`, `inc`, `result`, `hist`. -/
theorem Inv1.unread {P : Params} {s : State} (h : Inv1 P s) (mv' inc' result' hist') :
    Inv1 P { s with mv := mv', inc := inc', result := result', hist := hist' } :=
  ⟨h.1, h.2, h.3, h.4, h.5, h.6, h.7, h.8, h.9, h.10⟩

/-- The successor is spelt out field by field for the reason given at `Move.mk'`; `hphase` is one
    conjunction so that one `simp` proves it for all constructors of an arm. -/
theorem Inv1.rephase {P : Params} {s : State} {i : TxId} {p p' : Phase} {mv' inc' result' hist'}
    (h : Inv1 P s) (hp : s.phase i = p)
    (hphase : (∀ st, PhaseStatus p st → PhaseStatus p' st) ∧
      (∀ c u, PhaseClock c u p → PhaseClock c u p') ∧ TailTarget i p') :
    Inv1 P ⟨mv', s.clock, s.lts, s.uts, s.fin, s.lower, s.com, s.outcomes, s.status, inc', result',
      updF s.phase i p', hist'⟩ :=
  (h.unread mv' inc' result' hist').of_move (by move_frame) updF_same rfl rfl (Nat.le_refl _)
    (clk_lts := h.clk_lts) (clk_uts := h.clk_uts i)
    (clk_phase := hphase.2.1 _ _ (hp ▸ h.clk_phase i)) (st_phase := hphase.1 _ (hp ▸ h.st_phase i))
    (tail_target := hphase.2.2) (fin_status := Iff.rfl) (lower_ge := h.lower_ge)
    (active_lt := h.active_lt i)

theorem Inv1.restatus {P : Params} {s : State} {i : TxId} {p' : Phase} {st' : Status}
    {mv' inc' result' hist'} (h : Inv1 P s) (hps : PhaseStatus p' st')
    (hts : (∀ c u, PhaseClock c u p') ∧ TailTarget i p') (hnf : s.status i ≠ .finality)
    (hnf' : st' ≠ .finality) (hin : i < P.n) :
    Inv1 P ⟨mv', s.clock, s.lts, s.uts, s.fin, s.lower, s.com, s.outcomes, updF s.status i st',
      inc', result', updF s.phase i p', hist'⟩ :=
  (h.unread mv' inc' result' hist').of_move (by move_frame) updF_same updF_same rfl (Nat.le_refl _)
    (clk_lts := h.clk_lts) (clk_uts := h.clk_uts i) (clk_phase := hts.1 _ _) (st_phase := hps)
    (tail_target := hts.2) (fin_status := iff_of_false hnf' hnf) (lower_ge := h.lower_ge)
    (active_lt := fun _ => hin)

theorem PhaseStatus.tail_exit {st st' : Status}
    (h : (st = .executing ∨ st = .validating) ∧ (st' = .executed ∨ st' = .conflict)) :
    PhaseStatus .idle st' ∧ st' ≠ .finality ∧ st ≠ .finality ∧ st ≠ .initial := by
  rcases h with ⟨e | e, e' | e'⟩ <;> simp [e, e', PhaseStatus]

theorem inv1_step {P : Params} {s s' : State} (h : Inv1 P s) (hs : Step P s s') : Inv1 P s' := by
  cases hs with
  | execReadMv i | execReadMiss i | execFetch i | execFinishOk i | execFinishErr i | publishOne i
  | endPublish i | removeOne i | recordBlocked i | recordRewind i | markErrSome i | markErrNone i
  | markValSome i | markValNone i | endErrMark i | valCheck i | endScanConflict i | endValMark i =>
    exact h.rephase ‹s.phase i = _› (by simp +contextual [PhaseStatus, PhaseClock, TailTarget])
  | claimExec i hi hp hst =>
    exact h.restatus rfl ⟨fun _ _ => trivial, trivial⟩ (by rcases hst with e | e <;> simp [e]) nofun
      hi
  | claimVal i hp hst =>
    have hst : s.status i ≠ .finality ∧ s.status i ≠ .initial := by rcases hst with e | e <;> simp [e]
    exact h.restatus rfl ⟨fun _ _ => trivial, trivial⟩ hst.1 nofun (h.active_lt i hst.2)
  | recordDirect i run hp hb =>
    have hst : s.status i = .executing := (hp ▸ h.st_phase i :)
    exact h.restatus rfl ⟨fun _ _ => trivial, trivial⟩ (by simp [hst]) nofun
      (h.active_lt i (by simp [hst]))
  | tailSkip i k st hp hk =>
    obtain ⟨hps, hf', hf, hni⟩ := PhaseStatus.tail_exit (hp ▸ h.st_phase i :)
    exact h.restatus hps ⟨fun _ _ => trivial, trivial⟩ hf hf' (h.active_lt i hni)
  | tailTs i _ _ hp | valTs i _ hp =>
    -- both draw the timestamp `s.clock`; status and rewind target stay what the phase before fixed
    have hst := h.st_phase i; have htt := h.tail_target i; rw [hp] at hst htt
    exact h.of_move (i := i) (by move_frame) updF_same rfl rfl (Nat.le_succ _)
      (clk_lts := fun k => Nat.lt_succ_of_lt (h.clk_lts k))
      (clk_uts := Nat.lt_succ_of_lt (h.clk_uts i))
      (clk_phase := by simp [PhaseClock, h.clk_uts i])
      (st_phase := hst) (tail_target := htt) (fin_status := Iff.rfl) (lower_ge := h.lower_ge)
      (active_lt := h.active_lt i)
  | tailLts i k ts st hp =>
    have hck : ts < s.clock := (hp ▸ h.clk_phase i :)
    have htt : k = i ∨ k = i + 1 := (hp ▸ h.tail_target i :)
    obtain ⟨hps, hf', hf, hni⟩ := PhaseStatus.tail_exit (hp ▸ h.st_phase i :)
    have hnf : s.fin ≤ i := Nat.le_of_not_lt fun hlt => hf ((h.fin_status i).mpr hlt)
    refine h.of_move (i := i) (by move_frame) updF_same updF_same rfl (Nat.le_refl _)
      (clk_lts := fun k' => ?_) (clk_uts := h.clk_uts i) (clk_phase := trivial) (st_phase := hps)
      (tail_target := trivial) (fin_status := iff_of_false hf' hf) (lower_ge := fun k' hk' => ?_)
      (active_lt := fun _ => h.active_lt i hni)
    · show updF s.lts k (max (s.lts k) ts) k' < s.clock
      by_cases hk : k' = k
      · rw [hk, updF_same]; exact Nat.max_lt.2 ⟨h.clk_lts k, hck⟩
      · rw [updF_ne hk]; exact h.clk_lts k'
    · show updF s.lts k (max (s.lts k) ts) k' ≤ s.lower
      rw [updF_ne (by omega)]; exact h.lower_ge k' hk'
  | endScanOk i ts done hp =>
    have hst : s.status i = .validating := (hp ▸ h.st_phase i :)
    have hck := h.clk_phase i; rw [hp] at hck
    exact h.of_move (i := i) (by move_frame) updF_same updF_same updF_same (Nat.le_refl _)
      (clk_lts := h.clk_lts) (clk_uts := Nat.max_lt.2 ⟨h.clk_uts i, hck.1⟩) (clk_phase := trivial)
      (st_phase := ⟨nofun, nofun⟩) (tail_target := trivial) (fin_status := by simp [hst])
      (lower_ge := h.lower_ge) (active_lt := fun _ => h.active_lt i (by simp [hst]))
  | finalize hi hp hst hg =>
    refine ⟨h.clk_lts, h.clk_uts, h.clk_phase, fun j => ?_, h.tail_target, fun j => ?_,
      fun k hk => h.lts_le_guard (Nat.le_of_lt_succ hk), ⟨Nat.le_succ_of_le h.com_le.1, h.com_le.2⟩, hi,
      fun j => ?_⟩
    · show PhaseStatus (s.phase j) (updF s.status s.fin .finality j)
      by_cases hj : j = s.fin
      · subst hj; simp [hp, PhaseStatus]
      · rw [updF_ne hj]; exact h.st_phase j
    · show updF s.status s.fin .finality j = .finality ↔ j < s.fin + 1
      by_cases hj : j = s.fin
      · subst hj; simp
      · rw [updF_ne hj, h.fin_status j, Nat.lt_succ_iff, Nat.le_iff_lt_or_eq,
          or_iff_left hj]
    · show updF s.status s.fin .finality j ≠ .initial → j < P.n
      by_cases hj : j = s.fin
      · subst hj; exact fun _ => hi
      · rw [updF_ne hj]; exact h.active_lt j
  | commit r hc hr =>
    exact ⟨h.clk_lts, h.clk_uts, h.clk_phase, h.st_phase, h.tail_target, h.fin_status, h.lower_ge,
      ⟨hc, by simp [h.com_le.2]⟩, h.fin_le, h.active_lt⟩

theorem inv1_reach {P : Params} {s : State} (h : Reach P s) : Inv1 P s := by
  induction h with
  | init => exact inv1_init P
  | step _ hs ih => exact inv1_step ih hs

theorem step_frozen {P : Params} {s s' : State} (h1 : Inv1 P s) (hs : Step P s s') (j : TxId)
    (hj : j < s.fin) : s'.result j = s.result j ∧ s'.status j = s.status j ∧ j < s'.fin := by
  refine hs.move_cases (move := fun i s' m hn => ?_)
    (finalize := fun _ _ _ _ => ⟨rfl, updF_ne (Nat.ne_of_lt hj), Nat.lt_succ_of_lt hj⟩)
    (commit := fun _ _ _ => ⟨rfl, rfl, hj⟩)
  have hji : j ≠ i := by rintro rfl; exact hn (h1.fin_idle hj) ((h1.fin_status j).mpr hj)
  exact ⟨m.result hji, m.status hji, m.fin ▸ hj⟩

theorem step_com_mono {P : Params} {s s' : State} (hs : Step P s s') : s.com ≤ s'.com :=
  hs.move_cases (move := fun _ _ m _ => Nat.le_of_eq m.com.symm)
    (finalize := fun _ _ _ _ => Nat.le_refl _) (commit := fun _ _ _ => Nat.le_succ _)

end Grevm.Sched
