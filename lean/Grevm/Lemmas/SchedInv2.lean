/- Invariant group 2 of the pipeline model: the shape of every transaction's column of MV memory
   in every phase ("Conflict ⇒ all entries are estimates", "Executed/Unconfirmed ⇒ entries are exactly
   the result's writes"), entry identity (an entry's value is the value its incarnation wrote) and
   the ghost incarnation history. -/
import Grevm.Lemmas.SchedInv1

namespace Grevm.Sched

open Grevm.Block

/-- The result of a run that ended in `done`.  (An error result keeps the previous `writes`: their
    locations still hold estimates.) -/
def OkRes (r : Result) : Prop := ∃ o, r.out = .ok r.writes o

def NewEntry (inc : Nat) (w : List (Loc × Val)) (est : Bool) (l : Loc) (e : Entry) : Prop :=
  e.inc = inc ∧ lookup w l = some e.val ∧ e.est = est

/-- The column holds exactly the writes of `r`, none of them an estimate. -/
def Clean (col : Loc → Option Entry) (r : Result) : Prop :=
  (∀ l e, col l = some e → l ∈ r.locs ∧ NewEntry r.inc r.writes false l e) ∧
  (∀ l, col l = none → l ∉ r.locs)

/-- The column holds entries exactly at `locs`, all of them estimates. -/
def Dirty (col : Loc → Option Entry) (locs : List Loc) : Prop :=
  (∀ l e, col l = some e → l ∈ locs ∧ e.est = true) ∧ (∀ l, col l = none → l ∉ locs)

/-- In `publishing`, `done` is a ghost: the write locations already published, of which the model
    keeps only the complement `todo`. -/
def Shape (s : State) (j : TxId) : Prop :=
  match s.phase j with
  | .idle =>
      match s.status j with
      | .initial => s.result j = none ∧ ∀ l, s.mv l j = none
      | .conflict => ∃ r, s.result j = some r ∧ Dirty (fun l => s.mv l j) r.locs
      | _ => ∃ r, s.result j = some r ∧ OkRes r ∧ Clean (fun l => s.mv l j) r
  | .reading _ _ _ => Dirty (fun l => s.mv l j) (oldLocs s j)
  | .fetching _ _ _ _ => Dirty (fun l => s.mv l j) (oldLocs s j)
  | .publishing run todo _ => ∃ done : List Loc,
      (∀ l, l ∈ writeLocs run.writes ↔ l ∈ done ∨ l ∈ todo) ∧ (∀ l, l ∈ todo → l ∉ done) ∧
      todo.Nodup ∧
      (∀ l, l ∈ done → ∃ e, s.mv l j = some e ∧ NewEntry (s.inc j) run.writes run.blocked l e) ∧
      (∀ l, l ∉ done → (∀ e, s.mv l j = some e → l ∈ oldLocs s j ∧ e.est = true) ∧
                        (s.mv l j = none → l ∉ oldLocs s j))
  | .removing run todo _ =>
      (∀ l, l ∈ writeLocs run.writes →
        ∃ e, s.mv l j = some e ∧ NewEntry (s.inc j) run.writes run.blocked l e) ∧
      (∀ l, l ∉ writeLocs run.writes → ∀ e, s.mv l j = some e → l ∈ todo ∧ e.est = true) ∧
      (∀ l, l ∈ todo → l ∉ writeLocs run.writes)
  | .errMark _ ow _ => ow = oldWrites s j ∧ Dirty (fun l => s.mv l j) (oldLocs s j)
  | .valPreTs => ∃ r, s.result j = some r ∧ OkRes r ∧ Clean (fun l => s.mv l j) r
  | .valScan _ done todo _ =>
      ∃ r, s.result j = some r ∧ OkRes r ∧ Clean (fun l => s.mv l j) r ∧
        ∀ x, x ∈ r.reads ↔ x ∈ done ∨ x ∈ todo
  | .valMark todo => ∃ r, s.result j = some r ∧
      (∀ l e, s.mv l j = some e → l ∈ r.locs ∧ (l ∉ todo → e.est = true)) ∧
      (∀ l, s.mv l j = none → l ∉ r.locs)
  | .tailPreTs _ st => ∃ r, s.result j = some r ∧
      (st = .executed → OkRes r ∧ Clean (fun l => s.mv l j) r) ∧
      (st = .conflict → Dirty (fun l => s.mv l j) r.locs)
  | .tailLts _ _ st => ∃ r, s.result j = some r ∧
      (st = .executed → OkRes r ∧ Clean (fun l => s.mv l j) r) ∧
      (st = .conflict → Dirty (fun l => s.mv l j) r.locs)

/-- Entry identity: the value of an entry is what its incarnation wrote to that location. -/
def EntryId (s : State) (j : TxId) : Prop :=
  ∀ l e, s.mv l j = some e → ∃ w, s.hist j e.inc = some w ∧ lookup w l = some e.val

/-- The write list of an incarnation enters the ghost history when its run ends: one publication per
    (transaction, incarnation, location), which keeps `EntryId` stable. -/
def HistPhase (s : State) (j : TxId) : Prop :=
  match s.phase j with
  | .reading _ _ _ => s.hist j (s.inc j) = none
  | .fetching _ _ _ _ => s.hist j (s.inc j) = none
  | .publishing run _ _ => s.hist j (s.inc j) = some run.writes
  | .removing run _ _ => s.hist j (s.inc j) = some run.writes
  | _ => True

structure HistOk (s : State) (j : TxId) : Prop where
  le_inc : ∀ m w, s.hist j m = some w → m ≤ s.inc j
  res : ∀ r, s.result j = some r → r.inc ≤ s.inc j ∧ (OkRes r → s.hist j r.inc = some r.writes)
  phase : HistPhase s j

structure TxInv2 (s : State) (j : TxId) : Prop where
  shape : Shape s j
  entry : EntryId s j
  hist : HistOk s j

def Inv2 (s : State) : Prop := ∀ j, TxInv2 s j

theorem oldLocs_eq (s : State) (j : TxId) : oldLocs s j = writeLocs (oldWrites s j) := by
  unfold oldLocs oldWrites
  split <;> rfl

/-- Frame: a transaction whose own column and fields are untouched keeps its invariant (its status
    may pass from `unconfirmed` to `finality` while no worker is inside; `Shape` reads the status
    only then, hence the premise of `hst`). -/
theorem TxInv2.frame {s s' : State} {j : TxId} (h : TxInv2 s j)
    (hmv : ∀ l, s'.mv l j = s.mv l j) (hph : s'.phase j = s.phase j)
    (hres : s'.result j = s.result j) (hinc : s'.inc j = s.inc j) (hh : s'.hist j = s.hist j)
    (hst : s.phase j = .idle → (s'.status j = s.status j ∨
      (s.status j = .unconfirmed ∧ s'.status j = .finality))) :
    TxInv2 s' j := by
  obtain ⟨hsh, hen, hle, hr, hp⟩ := h
  exact {
    shape := by
      unfold Shape at hsh ⊢
      rw [hph]
      revert hsh hst
      -- split on the phase first: `simp only` then rewrites inside one branch, not all of them
      cases s.phase j <;> intro hst hsh <;> simp only [oldLocs, oldWrites, hres, hinc, hmv]
      case idle =>
        rcases hst rfl with e | ⟨e1, e2⟩
        · rwa [e]
        · rw [e2]; rwa [e1] at hsh
      all_goals exact hsh
    entry := by simpa only [EntryId, hh, hmv] using hen
    hist := {
      le_inc := by simpa only [hinc, hh] using hle
      res := by simpa only [hinc, hres, hh] using hr
      phase := by unfold HistPhase at hp ⊢; rwa [hph, hinc, hh] } }

theorem TxInv2.clean {s : State} {j : TxId} (h : TxInv2 s j) (hp : s.phase j = .idle)
    (h1 : s.status j ≠ .initial) (h2 : s.status j ≠ .conflict) :
    ∃ r, s.result j = some r ∧ OkRes r ∧ Clean (fun l => s.mv l j) r := by
  simpa only [Shape, hp, h1, h2] using h.shape

theorem EntryId.setMv {s s' : State} {i : TxId} {l : Loc} {e : Option Entry} (h : EntryId s i)
    (hmv : s'.mv = setMv s.mv l i e) (hh : s'.hist = s.hist)
    (he : ∀ e', e = some e' → ∃ w, s.hist i e'.inc = some w ∧ lookup w l = some e'.val) :
    EntryId s' i := by
  intro l' e' he'
  rw [hmv] at he'; rw [hh]
  rcases setMv_col he' with ⟨rfl, hx⟩ | ⟨_, hx⟩
  · exact he e' hx
  · exact h l' e' hx

theorem inv2_init : Inv2 init := fun _ =>
  ⟨⟨rfl, fun _ => rfl⟩, fun _ _ => nofun, fun _ _ => nofun, fun _ => nofun, trivial⟩

/-- Tactic for the untouched transactions `j ≠ i` of a step of transaction `i`. -/
macro "other_tx" h:ident j:ident hj:ident : tactic =>
  `(tactic| exact ($h $j).frame
      (by intro l; simp [setMv, setPhase, updF, $hj:ident])
      (by simp [setPhase, updF, $hj:ident])
      (by simp [setPhase, updF, $hj:ident])
      (by simp [setPhase, updF, $hj:ident])
      (by first | rfl | (funext m; simp [setPhase, $hj:ident]))
      (by intro _; left; simp [setPhase, updF, $hj:ident]))

theorem Dirty.of_eq {col col' : Loc → Option Entry} {locs : List Loc} (h : Dirty col locs)
    (he : ∀ l, col' l = col l) : Dirty col' locs :=
  funext he ▸ h

theorem mem_append_singleton {α : Type} {a b : α} {l : List α} : a ∈ l ++ [b] ↔ a ∈ l ∨ a = b := by
  simp

/-- What `recordResult` finds when the removal list is exhausted: the column holds exactly the new
    writes, all of them estimates or none, as the run was blocked or not. -/
theorem removing_done {s : State} {i : TxId} {run : Pending} {nl : Bool} (h : TxInv2 s i)
    (hp : s.phase i = .removing run [] nl) :
    (run.blocked = false →
      Clean (fun l => s.mv l i) ⟨s.inc i, run.reads, run.writes, .ok run.writes run.out⟩) ∧
    (run.blocked = true → Dirty (fun l => s.mv l i) (writeLocs run.writes)) ∧
    s.hist i (s.inc i) = some run.writes := by
  have hsh := h.shape; have hph := h.hist.phase
  simp only [Shape, HistPhase, hp] at hsh hph
  obtain ⟨hnew, hold, _⟩ := hsh
  have hsome l e (he : s.mv l i = some e) :
      l ∈ writeLocs run.writes ∧ NewEntry (s.inc i) run.writes run.blocked l e := by
    have hl : l ∈ writeLocs run.writes :=
      Decidable.byContradiction fun hl => List.not_mem_nil (hold l hl e he).1
    obtain ⟨e', he', hn⟩ := hnew l hl
    rw [he] at he'; cases he'; exact ⟨hl, hn⟩
  have hnone l (hn : s.mv l i = none) : l ∉ writeLocs run.writes := fun hl => by
    obtain ⟨e', he', _⟩ := hnew l hl
    rw [hn] at he'; cases he'
  exact ⟨fun hb => ⟨fun l e he => hb ▸ hsome l e he, hnone⟩,
    fun hb => ⟨fun l e he => ⟨(hsome l e he).1, hb ▸ (hsome l e he).2.2.2⟩, hnone⟩, hph⟩

/-- A result stored is one of the current incarnation.  `hsh`, `hph` speak of the successor: hence a
    variable `s'`, tied by `es` (callers: `rfl`) to the list of its fields for the reason given at
    `Move.mk'`; likewise in the later groups.  They are asked of `s'` with EVERY phase set to `p'`:
    at `i` that reads the same, and there `Shape` and `HistPhase` reduce to their `p'` branch by
    computation (in `updF s.phase i p' i` the test `i = i` is stuck), so that `hph` is mostly `trivial`.
    `hst` and `hres` are disjunctions of literal forms because `other_tx` proves the frame of the other
    transactions by `simp` on the successor's fields as they are written. -/
theorem Inv2.rephase {s s' : State} {i : TxId} {p' : Phase}
    {clock' lts' uts' fin' lower' com' outcomes' status' result'} (h : Inv2 s)
    (es : s' = ⟨s.mv, clock', lts', uts', fin', lower', com', outcomes', status', s.inc, result',
      updF s.phase i p', s.hist⟩)
    (hst : status' = s.status ∨ ∃ st', status' = updF s.status i st')
    (hres : result' = s.result ∨ ∃ r', result' = updF s.result i (some r') ∧ r'.inc = s.inc i ∧
      (OkRes r' → s.hist i (s.inc i) = some r'.writes))
    (hsh : Shape { s' with phase := fun _ => p' } i)
    (hph : HistPhase { s' with phase := fun _ => p' } i) : Inv2 s' := by
  have hi := h i
  have hr r (hr : result' i = some r) :
      r.inc ≤ s.inc i ∧ (OkRes r → s.hist i r.inc = some r.writes) := by
    rcases hres with rfl | ⟨r', rfl, hinc, hh⟩
    · exact hi.hist.res r hr
    · rw [updF_same] at hr; cases hr; exact ⟨Nat.le_of_eq hinc, hinc ▸ hh⟩
  have hi' : TxInv2 s' i := by
    subst es
    -- from the constant phase function back to `updF s.phase i p'`
    exact (TxInv2.mk hsh hi.entry ⟨hi.hist.le_inc, hr, hph⟩).frame (fun _ => rfl) updF_same rfl rfl rfl
      fun _ => .inl rfl
  subst es
  rcases hres with rfl | ⟨r', rfl, -⟩ <;> rcases hst with rfl | ⟨st', rfl⟩ <;>
    exact of_others i (fun j hj => by other_tx h j hj) hi'

/-- `hsh`, `hph`: as for `Inv2.rephase`. -/
theorem Inv2.setMv {s s' : State} {i : TxId} {l : Loc} {e : Option Entry} {p' : Phase} (h : Inv2 s)
    (es : s' = { s with mv := setMv s.mv l i e, phase := updF s.phase i p' })
    (he : ∀ e', e = some e' → ∃ w, s.hist i e'.inc = some w ∧ lookup w l = some e'.val)
    (hsh : Shape { s' with phase := fun _ => p' } i)
    (hph : HistPhase { s' with phase := fun _ => p' } i) : Inv2 s' := by
  subst es
  have hi := h i
  have hi' := TxInv2.mk hsh (hi.entry.setMv rfl rfl he) ⟨hi.hist.le_inc, hi.hist.res, hph⟩
  exact of_others i (fun j hj => by other_tx h j hj)
    (hi'.frame (fun _ => rfl) updF_same rfl rfl rfl fun _ => .inl rfl)

theorem step_hist_mono {P : Params} {s s' : State} (h2 : Inv2 s) (hs : Step P s s') :
    ∀ k m w, s.hist k m = some w → s'.hist k m = some w := by
  cases hs with
  | execFinishOk i w o reads blocked hp =>
    -- the new entry sits at the current incarnation, which has none yet
    have hfresh : s.hist i (s.inc i) = none := by
      simpa only [HistPhase, hp] using (h2 i).hist.phase
    intro k m w' hh
    show (if k = i ∧ m = s.inc i then some w else s.hist k m) = some w'
    split
    · rename_i hc; rw [hc.1, hc.2, hfresh] at hh; cases hh
    · exact hh
  | _ => exact fun _ _ _ hh => hh

theorem inv2_step {P : Params} {s s' : State} (h1 : Inv1 P s) (h : Inv2 s) (hs : Step P s s') :
    Inv2 s' := by
  cases hs with
  | finalize hi hp hst hg =>
    refine fun j => (h j).frame (fun _ => rfl) rfl rfl rfl rfl fun _ => ?_
    by_cases hj : j = s.fin
    · subst hj; exact .inr ⟨hst, updF_same⟩
    · exact .inl (updF_ne hj)
  | commit r hc hr => exact fun j => (h j).frame (fun _ => rfl) rfl rfl rfl rfl fun _ => .inl rfl
  | execReadMv i | execReadMiss i | execFetch i =>
    refine h.rephase rfl (.inl rfl) (.inl rfl) ?_ ?_
    · simpa only [Shape, setPhase, oldLocs, *] using (h i).shape
    · simpa only [HistPhase, setPhase, *] using (h i).hist.phase
  | claimExec i _ hp hst =>
    have hi := h i; have hsh := hi.shape
    exact of_others i (fun j hj => by other_tx h j hj) {
      shape := by
        simp only [Shape, updF_same, oldLocs]
        rcases hst with e | e <;> simp only [Shape, hp, e] at hsh
        · exact ⟨fun l e he => by simp [hsh.2 l] at he, fun l _ => by simp [hsh.1]⟩
        · obtain ⟨r, hr, hd⟩ := hsh; simpa [hr] using hd
      entry := hi.entry
      hist := {
        le_inc := fun m w hm => by
          simp only [updF_same]; exact Nat.le_succ_of_le (hi.hist.le_inc m w hm)
        res := fun r hr => by
          simp only [updF_same]; exact (hi.hist.res r hr).imp_left Nat.le_succ_of_le
        phase := by
          simp only [HistPhase, updF_same]
          exact Option.eq_none_iff_forall_ne_some.mpr fun w hh =>
            Nat.not_succ_le_self _ (hi.hist.le_inc _ w hh) } }
  | execFinishOk i w o reads blocked hp =>
    have hi := h i; have hsh := hi.shape; simp only [Shape, hp] at hsh
    have keep := step_hist_mono (P := P) h (.execFinishOk i w o reads blocked hp) i
    exact of_others i (fun j hj => by other_tx h j hj) {
      shape := by
        simp only [Shape, updF_same]
        exact ⟨[], fun _ => ⟨.inr, fun h => h.resolve_left List.not_mem_nil⟩,
          fun _ _ => List.not_mem_nil, writeLocs_nodup w, List.forall_mem_nil _,
          fun l _ => ⟨hsh.1 l, hsh.2 l⟩⟩
      entry := fun l e he => by
        obtain ⟨w0, hw0, hl⟩ := hi.entry l e he
        exact ⟨w0, keep _ _ hw0, hl⟩
      hist := {
        le_inc := fun m w' hm => by
          simp only [] at hm
          split at hm
          · rename_i hc; rw [hc.2]; exact Nat.le_refl _
          · exact hi.hist.le_inc m w' hm
        res := fun r hr =>
          ⟨(hi.hist.res r hr).1, fun hok => keep _ _ ((hi.hist.res r hr).2 hok)⟩
        phase := by simp [HistPhase] } }
  | execFinishErr i _ _ _ hp | markErrNone i _ _ _ _ hp =>
    refine h.rephase rfl (.inl rfl) (.inl rfl) ?_ trivial
    simpa [Shape, setPhase, oldLocs, oldWrites, hp] using (h i).shape
  | publishOne i run l todo newLoc v hp hl hv =>
    have hsh := (h i).shape; have hph := (h i).hist.phase
    simp only [Shape, HistPhase, hp] at hsh hph
    obtain ⟨done, hmem, hdisj, hnd, hnew, hold⟩ := hsh
    refine h.setMv rfl ?_ ?_ hph
    · rintro _ ⟨⟩; exact ⟨run.writes, hph, hv⟩
    · simp only [Shape]
      refine ⟨l :: done, fun l' => ?_, fun l' hl' hc => ?_, hnd.erase l, fun l' hl' => ?_, fun l' hl' => ?_⟩
      · rw [hmem l', List.mem_cons, hnd.mem_erase_iff]
        by_cases hll : l' = l <;> simp [hll, hl]
      · rw [hnd.mem_erase_iff] at hl'
        rcases List.mem_cons.mp hc with h' | h'
        · exact hl'.1 h'
        · exact hdisj l' hl'.2 h'
      · by_cases hll : l' = l
        · subst hll; exact ⟨_, setMv_same, rfl, hv, rfl⟩
        · rw [setMv_ne_loc hll]
          exact hnew l' ((List.mem_cons.mp hl').resolve_left hll)
      · rw [List.mem_cons, not_or] at hl'
        rw [setMv_ne_loc hl'.1]
        exact hold l' hl'.2
  | endPublish i run newLoc hp =>
    have hsh := (h i).shape; simp only [Shape, hp] at hsh
    obtain ⟨done, hmem, _, _, hnew, hold⟩ := hsh
    have hdone : ∀ l, l ∈ writeLocs run.writes ↔ l ∈ done := fun l => by simp [hmem l]
    refine h.rephase rfl (.inl rfl) (.inl rfl) ?_ ?_
    · simp only [Shape]
      refine ⟨fun l hl => hnew l ((hdone l).mp hl), fun l hl e he => ?_, fun l hl => ?_⟩
      · have := (hold l (mt (hdone l).mpr hl)).1 e he
        exact ⟨List.mem_filter.mpr ⟨this.1, by simpa using hl⟩, this.2⟩
      · simpa using (List.mem_filter.mp hl).2
    · simpa [HistPhase, setPhase, hp] using (h i).hist.phase
  | removeOne i run l todo newLoc hp hl =>
    have hsh := (h i).shape; simp only [Shape, hp] at hsh
    obtain ⟨hnew, hold, hdisj⟩ := hsh
    have hlw : l ∉ writeLocs run.writes := hdisj l hl
    refine h.setMv rfl nofun ?_ ?_
    · simp only [Shape]
      refine ⟨fun l' hl' => ?_, fun l' hl' e he => ?_, fun l' hl' => hdisj l' (List.mem_of_mem_erase hl')⟩
      · rw [setMv_ne_loc (fun hc : l' = l => hlw (hc ▸ hl'))]; exact hnew l' hl'
      · rcases setMv_col he with ⟨_, ⟨⟩⟩ | ⟨hne, he⟩
        exact ⟨(List.mem_erase_of_ne hne).mpr (hold l' hl' e he).1, (hold l' hl' e he).2⟩
    · simpa [HistPhase, hp] using (h i).hist.phase
  | recordBlocked i run newLoc hp hb =>
    obtain ⟨-, hdirty, hh⟩ := removing_done (h i) hp
    refine h.rephase rfl (.inl rfl) (.inr ⟨_, rfl, rfl, fun _ => hh⟩) ?_ trivial
    simp only [Shape, setPhase, updF_same]
    exact ⟨_, rfl, nofun, fun _ => hdirty hb⟩
  | recordRewind i run newLoc handoff hp hb hn =>
    obtain ⟨hclean, -, hh⟩ := removing_done (h i) hp
    refine h.rephase rfl (.inl rfl) (.inr ⟨_, rfl, rfl, fun _ => hh⟩) ?_ trivial
    simp only [Shape, setPhase, updF_same]
    exact ⟨_, rfl, fun _ => ⟨⟨run.out, rfl⟩, hclean hb⟩, nofun⟩
  | recordDirect i run hp hb =>
    obtain ⟨hclean, -, hh⟩ := removing_done (h i) hp
    refine h.rephase rfl (.inr ⟨_, rfl⟩) (.inr ⟨_, rfl, rfl, fun _ => hh⟩) ?_ trivial
    simp only [Shape, updF_same]
    exact ⟨_, rfl, ⟨run.out, rfl⟩, hclean hb⟩
  | markErrSome i e ow l todo en hp hl hm =>
    have hsh := (h i).shape; simp only [Shape, hp] at hsh
    -- the entry is an estimate already: the column does not change
    have hen : { en with est := true } = en := by rw [← (hsh.2.1 l en hm).2]
    rw [hen, setMv_eq_self hm]
    exact h.rephase rfl (.inl rfl) (.inl rfl) hsh trivial
  | markValSome i l todo en hp hl hm =>
    have hsh := (h i).shape; simp only [Shape, hp] at hsh
    obtain ⟨r, hr, hsome, hnone⟩ := hsh
    refine h.setMv rfl ?_ ?_ trivial
    · rintro _ ⟨⟩; exact (h i).entry l en hm
    · simp only [Shape]
      refine ⟨r, hr, fun l' e' he' => ?_, fun l' hn => ?_⟩
      · rcases setMv_col he' with ⟨rfl, ⟨⟩⟩ | ⟨hne, he'⟩
        · exact ⟨(hsome l' en hm).1, fun _ => rfl⟩
        · exact ⟨(hsome l' e' he').1, fun hnt =>
            (hsome l' e' he').2 (mt (List.mem_erase_of_ne hne).mpr hnt)⟩
      · rcases setMv_col hn with ⟨_, ⟨⟩⟩ | ⟨_, hn⟩
        exact hnone l' hn
  | markValNone i l todo hp hl hm =>
    have hsh := (h i).shape; simp only [Shape, hp] at hsh
    obtain ⟨r, hr, hsome, hnone⟩ := hsh
    refine h.rephase rfl (.inl rfl) (.inl rfl) ?_ trivial
    simp only [Shape, setPhase]
    refine ⟨r, hr, fun l' e' he' => ⟨(hsome l' e' he').1, fun hnt =>
      (hsome l' e' he').2 (mt (List.mem_erase_of_ne ?_).mpr hnt)⟩, hnone⟩
    rintro rfl; rw [hm] at he'; cases he'
  | endErrMark i e ow hp =>
    have hsh := (h i).shape; simp only [Shape, hp] at hsh
    refine h.rephase rfl (.inl rfl) (.inr ⟨_, rfl, rfl, fun ⟨o, ho⟩ => by cases ho⟩) ?_ trivial
    simp only [Shape, updF_same]
    refine ⟨_, rfl, nofun, fun _ => ?_⟩
    have hd := hsh.2; rwa [oldLocs_eq, ← hsh.1] at hd
  | tailTs i k st hp hk =>
    refine h.rephase rfl (.inl rfl) (.inl rfl) ?_ trivial
    simpa only [Shape, hp] using (h i).shape
  | tailLts i k _ st hp | tailSkip i k st hp =>
    have hsh := (h i).shape; simp only [Shape, hp] at hsh
    have hps := h1.st_phase i; rw [hp] at hps
    obtain ⟨r, hr, hex, hco⟩ := hsh
    refine h.rephase rfl (.inr ⟨_, rfl⟩) (.inl rfl) ?_ trivial
    simp only [Shape, updF_same]
    rcases hps.2 with rfl | rfl
    · exact ⟨r, hr, hex rfl⟩
    · exact ⟨r, hr, hco rfl⟩
  | claimVal i hp hst =>
    refine h.rephase rfl (.inr ⟨_, rfl⟩) (.inl rfl) ?_ trivial
    rcases hst with e | e <;> simpa only [Shape, hp, e] using (h i).shape
  | valTs i r hp hr =>
    have hsh := (h i).shape; simp only [Shape, hp] at hsh
    obtain ⟨r', hr', hok, hcl⟩ := hsh
    rw [hr] at hr'; cases hr'
    refine h.rephase rfl (.inl rfl) (.inl rfl) ?_ trivial
    simp only [Shape]; exact ⟨r, hr, hok, hcl, by simp⟩
  | valCheck i ts done r todo conflict k hp hk =>
    have hsh := (h i).shape; simp only [Shape, hp] at hsh
    obtain ⟨r', hr', hok, hcl, hrd⟩ := hsh
    refine h.rephase rfl (.inl rfl) (.inl rfl) ?_ trivial
    simp only [Shape]
    refine ⟨r', hr', hok, hcl, fun x => ?_⟩
    rw [hrd x, List.mem_cons, mem_iff_eraseIdx hk, or_left_comm, or_assoc]
  | endScanConflict i ts done hp =>
    have hsh := (h i).shape; simp only [Shape, hp] at hsh
    obtain ⟨r', hr', hok, hcl, hrd⟩ := hsh
    refine h.rephase rfl (.inl rfl) (.inl rfl) ?_ trivial
    simp only [Shape]
    refine ⟨r', hr', fun l e he => ⟨(hcl.1 l e he).1, fun hnt => absurd ?_ hnt⟩, hcl.2⟩
    simpa [oldLocs, hr'] using (hcl.1 l e he).1
  | endScanOk i ts done hp =>
    have hsh := (h i).shape; simp only [Shape, hp] at hsh
    obtain ⟨r', hr', hok, hcl, hrd⟩ := hsh
    refine h.rephase rfl (.inr ⟨_, rfl⟩) (.inl rfl) ?_ trivial
    simp only [Shape, updF_same]; exact ⟨r', hr', hok, hcl⟩
  | endValMark i hp =>
    have hsh := (h i).shape; simp only [Shape, hp] at hsh
    obtain ⟨r', hr', hsome, hnone⟩ := hsh
    refine h.rephase rfl (.inl rfl) (.inl rfl) ?_ trivial
    simp only [Shape]
    exact ⟨r', hr', nofun, fun _ =>
      ⟨fun l e he => ⟨(hsome l e he).1, (hsome l e he).2 List.not_mem_nil⟩, hnone⟩⟩

end Grevm.Sched
