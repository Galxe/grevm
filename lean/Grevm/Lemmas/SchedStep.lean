/- The transition relation of the pipeline model in relational form: one constructor per concrete
   transition with its guard and its explicit successor state; `step_sound` relates it to the
   executable `step`. All invariant proofs go by cases on `Step`; what most steps have in common
   is `Move`, at the end of the file. -/
import Grevm.Lemmas.SchedBasic

namespace Grevm.Sched

open Grevm.Block

inductive Step (P : Params) (s : State) : State → Prop where
  | claimExec (i : TxId) (hi : i < P.n) (hp : s.phase i = .idle)
      (hs : s.status i = .initial ∨ s.status i = .conflict) :
      Step P s { s with status := updF s.status i .executing, inc := updF s.inc i (s.inc i + 1),
                        phase := updF s.phase i (.reading (P.txs i) [] false) }
  | execReadMv (i : TxId) (l : Loc) (k : Val → Prog) (reads : List ReadRec) (blocked : Bool)
      (j : TxId) (e : Entry)
      (hp : s.phase i = .reading (.read l k) reads blocked) (hr : resolve s.mv i l = some (j, e)) :
      Step P s (setPhase s i (.reading (k e.val)
        ({ loc := l, ver := some (j, e.inc), val := e.val } :: reads) (blocked || e.est)))
  | execReadMiss (i : TxId) (l : Loc) (k : Val → Prog) (reads : List ReadRec) (blocked : Bool)
      (hp : s.phase i = .reading (.read l k) reads blocked) (hr : resolve s.mv i l = none) :
      Step P s (setPhase s i (.fetching l k reads blocked))
  | execFetch (i : TxId) (l : Loc) (k : Val → Prog) (reads : List ReadRec) (blocked : Bool)
      (hp : s.phase i = .fetching l k reads blocked) :
      Step P s (setPhase s i (.reading (k (cval P s s.com l))
        ({ loc := l, ver := none, val := cval P s s.com l } :: reads) blocked))
  | execFinishOk (i : TxId) (w : List (Loc × Val)) (o : Nat) (reads : List ReadRec) (blocked : Bool)
      (hp : s.phase i = .reading (.done w o) reads blocked) :
      Step P s { s with hist := fun j m => if j = i ∧ m = s.inc i then some w else s.hist j m,
                        phase := updF s.phase i
                          (.publishing { reads := reads.reverse, writes := w, out := o, blocked := blocked }
                            (writeLocs w) false) }
  | execFinishErr (i : TxId) (e : Nat) (reads : List ReadRec) (blocked : Bool)
      (hp : s.phase i = .reading (.fail e) reads blocked) :
      Step P s (setPhase s i (.errMark e (oldWrites s i) (oldLocs s i)))
  | publishOne (i : TxId) (run : Pending) (l : Loc) (todo : List Loc) (newLoc : Bool) (v : Val)
      (hp : s.phase i = .publishing run todo newLoc) (hl : l ∈ todo)
      (hv : lookup run.writes l = some v) :
      Step P s { s with mv := setMv s.mv l i (some { inc := s.inc i, val := v, est := run.blocked }),
                        phase := updF s.phase i
                          (.publishing run (todo.erase l) (newLoc || !decide (l ∈ oldLocs s i))) }
  | endPublish (i : TxId) (run : Pending) (newLoc : Bool)
      (hp : s.phase i = .publishing run [] newLoc) :
      Step P s (setPhase s i (.removing run
        ((oldLocs s i).filter (fun l => !decide (l ∈ writeLocs run.writes))) newLoc))
  | removeOne (i : TxId) (run : Pending) (l : Loc) (todo : List Loc) (newLoc : Bool)
      (hp : s.phase i = .removing run todo newLoc) (hl : l ∈ todo) :
      Step P s { s with mv := setMv s.mv l i none,
                        phase := updF s.phase i (.removing run (todo.erase l) newLoc) }
  | recordBlocked (i : TxId) (run : Pending) (newLoc : Bool)
      (hp : s.phase i = .removing run [] newLoc) (hb : run.blocked = true) :
      Step P s (setPhase { s with result := updF s.result i (some
          { inc := s.inc i, reads := run.reads, writes := run.writes, out := .ok run.writes run.out }) }
        i (.tailPreTs (i + 1) .conflict))
  | recordRewind (i : TxId) (run : Pending) (newLoc handoff : Bool)
      (hp : s.phase i = .removing run [] newLoc) (hb : run.blocked = false)
      (hn : (newLoc || handoff) = true) :
      Step P s (setPhase { s with result := updF s.result i (some
          { inc := s.inc i, reads := run.reads, writes := run.writes, out := .ok run.writes run.out }) }
        i (.tailPreTs i .executed))
  | recordDirect (i : TxId) (run : Pending)
      (hp : s.phase i = .removing run [] false) (hb : run.blocked = false) :
      Step P s { s with result := updF s.result i (some
          { inc := s.inc i, reads := run.reads, writes := run.writes, out := .ok run.writes run.out }),
                        status := updF s.status i .validating, phase := updF s.phase i .valPreTs }
  | markErrSome (i : TxId) (e : Nat) (ow : List (Loc × Val)) (l : Loc) (todo : List Loc) (en : Entry)
      (hp : s.phase i = .errMark e ow todo) (hl : l ∈ todo) (hm : s.mv l i = some en) :
      Step P s { s with mv := setMv s.mv l i (some { en with est := true }),
                        phase := updF s.phase i (.errMark e ow (todo.erase l)) }
  | markErrNone (i : TxId) (e : Nat) (ow : List (Loc × Val)) (l : Loc) (todo : List Loc)
      (hp : s.phase i = .errMark e ow todo) (hl : l ∈ todo) (hm : s.mv l i = none) :
      Step P s (setPhase s i (.errMark e ow (todo.erase l)))
  | markValSome (i : TxId) (l : Loc) (todo : List Loc) (en : Entry)
      (hp : s.phase i = .valMark todo) (hl : l ∈ todo) (hm : s.mv l i = some en) :
      Step P s { s with mv := setMv s.mv l i (some { en with est := true }),
                        phase := updF s.phase i (.valMark (todo.erase l)) }
  | markValNone (i : TxId) (l : Loc) (todo : List Loc)
      (hp : s.phase i = .valMark todo) (hl : l ∈ todo) (hm : s.mv l i = none) :
      Step P s (setPhase s i (.valMark (todo.erase l)))
  | endErrMark (i : TxId) (e : Nat) (ow : List (Loc × Val))
      (hp : s.phase i = .errMark e ow []) :
      Step P s { s with result := updF s.result i (some
          { inc := s.inc i, reads := [], writes := ow, out := .err e }),
                        phase := updF s.phase i (.tailPreTs (i + 1) .conflict) }
  | tailTs (i : TxId) (k : Nat) (st : Status) (hp : s.phase i = .tailPreTs k st) (hk : k < P.n) :
      Step P s { s with clock := s.clock + 1, phase := updF s.phase i (.tailLts k s.clock st) }
  | tailSkip (i : TxId) (k : Nat) (st : Status) (hp : s.phase i = .tailPreTs k st) (hk : ¬ k < P.n) :
      Step P s { s with status := updF s.status i st, phase := updF s.phase i .idle }
  | tailLts (i : TxId) (k ts : Nat) (st : Status) (hp : s.phase i = .tailLts k ts st) :
      Step P s { s with lts := updF s.lts k (max (s.lts k) ts), status := updF s.status i st,
                        phase := updF s.phase i .idle }
  | claimVal (i : TxId) (hp : s.phase i = .idle)
      (hs : s.status i = .executed ∨ s.status i = .unconfirmed) :
      Step P s { s with status := updF s.status i .validating, phase := updF s.phase i .valPreTs }
  | valTs (i : TxId) (r : Result) (hp : s.phase i = .valPreTs) (hr : s.result i = some r) :
      Step P s { s with clock := s.clock + 1,
                        phase := updF s.phase i (.valScan s.clock [] r.reads false) }
  | valCheck (i : TxId) (ts : Nat) (done : List ReadRec) (r : ReadRec) (todo : List ReadRec)
      (conflict : Bool) (k : Nat) (hp : s.phase i = .valScan ts done todo conflict)
      (hk : todo[k]? = some r) :
      Step P s (setPhase s i (.valScan ts (r :: done) (todo.eraseIdx k)
        (conflict || !readOk s.mv i r)))
  | endScanConflict (i : TxId) (ts : Nat) (done : List ReadRec)
      (hp : s.phase i = .valScan ts done [] true) :
      Step P s (setPhase s i (.valMark (oldLocs s i)))
  | endScanOk (i : TxId) (ts : Nat) (done : List ReadRec)
      (hp : s.phase i = .valScan ts done [] false) :
      Step P s { s with uts := updF s.uts i (max (s.uts i) ts),
                        status := updF s.status i .unconfirmed, phase := updF s.phase i .idle }
  | endValMark (i : TxId) (hp : s.phase i = .valMark []) :
      Step P s (setPhase s i (.tailPreTs (i + 1) .conflict))
  | finalize (hi : s.fin < P.n) (hp : s.phase s.fin = .idle) (hs : s.status s.fin = .unconfirmed)
      (hg : s.uts s.fin > max s.lower (s.lts s.fin)) :
      Step P s { s with lower := max s.lower (s.lts s.fin),
                        status := updF s.status s.fin .finality, fin := s.fin + 1 }
  | commit (r : Result) (hc : s.com < s.fin) (hr : s.result s.com = some r) :
      Step P s { s with outcomes := s.outcomes ++ [r.out], com := s.com + 1 }

-- `constructor` below tries the constructors in turn: with the update functions opaque a wrong one
-- is rejected on sight instead of after unfolding them field by field
attribute [local irreducible] updF setMv setPhase in
theorem step_sound {P : Params} {s s' : State} {a : Act} (h : step P s a = some s') :
    Step P s s' := by
  revert h
  apply step.fun_cases_unfolding (motive := fun a r => r = some s' → Step P s s')
  -- the branches whose guard is not literally a premise of the constructor; `caseN` is the `N`th
  -- branch of `step`, so the numbers shift when `step` gains one
  case case1 => rintro i hi hs hp ⟨⟩; exact .claimExec i hi hp (.inl hs)
  case case2 => rintro i hi hs hp ⟨⟩; exact .claimExec i hi hp (.inr hs)
  case case40 => rintro i hs hp ⟨⟩; exact .claimVal i hp (.inl hs)
  case case41 => rintro i hs hp ⟨⟩; exact .claimVal i hp (.inr hs)
  case case23 =>  -- the two `_` are the `let`s (`res`, `s1`) of the `recordResult` branch
    rintro i handoff run newLoc hp _ _ hb hn ⟨⟩
    exact .recordRewind i run newLoc handoff hp (eq_false_of_ne_true hb) hn
  case case24 =>
    rintro i handoff run newLoc hp _ _ hb hn ⟨⟩
    obtain ⟨rfl, -⟩ : newLoc = false ∧ handoff = false := by simpa using hn
    exact .recordDirect i run hp (eq_false_of_ne_true hb)
  case case49 =>
    rintro i ts done conflict hp hc ⟨⟩
    obtain rfl := eq_false_of_ne_true hc
    exact .endScanOk i ts done hp
  -- every other branch: no successor, or exactly the premises of one constructor
  all_goals intros
  all_goals first | contradiction | (cases ‹some _ = some s'›; constructor <;> assumption)

inductive Reach (P : Params) : State → Prop where
  | init : Reach P init
  | step {s s' : State} : Reach P s → Step P s s' → Reach P s'

theorem reach_of_reachable {P : Params} {s : State} (h : Reachable P s) : Reach P s := by
  obtain ⟨as, h⟩ := h
  have hr : Reach P init := .init
  generalize init = s0 at h hr
  induction as generalizing s0 with
  | nil => cases h; exact hr
  | cons a as ih =>
    simp only [run] at h
    split at h
    · cases h
    · exact ih _ h (.step hr (step_sound ‹_›))

/-! ### Moves

Every transition but `finalize` and `commit` is a `Move`: the worker inside one transaction `i`
rewrites what the state holds about `i` (and possibly `clock`, `lts`); of the others, and of `fin`,
`lower`, `com`, `outcomes`, nothing changes (`Step.move_cases`).  Groups 1 and 4 tie a transaction to
the shared cells or to other transactions and are re-established from a `Move` (`of_move`); groups
2 and 3 speak of each transaction by itself (`frame`).  The lemmas built on these are named alike
but differ in what may change beside `i`'s phase: `Inv1.rephase` nothing group 1 reads (`restatus`:
the status); `Inv2.rephase` status and result (`setMv`: one entry of `i`'s column); `Inv3.rephase`
the result and all that group 3 does not read; `Inv4.quiet` all but `mv` and `lts` (`rephase`,
`setMv`: into a phase of which I1' says nothing). -/

/-- What groups 1 and 4 read of one transaction. -/
structure TxView where
  phase : Phase
  status : Status
  result : Option Result
  uts : Nat

@[reducible] def State.tx (s : State) (j : TxId) : TxView :=
  ⟨s.phase j, s.status j, s.result j, s.uts j⟩

structure Move (s s' : State) (i : TxId) : Prop where
  tx : ∀ j, j ≠ i → s'.tx j = s.tx j
  fin : s'.fin = s.fin
  lower : s'.lower = s.lower
  com : s'.com = s.com
  outcomes : s'.outcomes = s.outcomes

namespace Move

variable {s s' : State} {i j : TxId}

theorem phase (m : Move s s' i) (hj : j ≠ i) : s'.phase j = s.phase j :=
  congrArg TxView.phase (m.tx j hj)
theorem status (m : Move s s' i) (hj : j ≠ i) : s'.status j = s.status j :=
  congrArg TxView.status (m.tx j hj)
theorem result (m : Move s s' i) (hj : j ≠ i) : s'.result j = s.result j :=
  congrArg TxView.result (m.tx j hj)
theorem uts (m : Move s s' i) (hj : j ≠ i) : s'.uts j = s.uts j :=
  congrArg TxView.uts (m.tx j hj)

end Move

/-- `Move` for an explicit successor state.  Stated so that unification reads each field of the
    successor once; `simp` on `s'.tx j = s.tx j` would traverse the whole record once per field. -/
theorem Move.mk' {s : State} {i : TxId} {mv' clock' lts' uts' status' inc' result' phase' hist'}
    (h : ∀ j, j ≠ i → TxView.mk (phase' j) (status' j) (result' j) (uts' j) = s.tx j) :
    Move s ⟨mv', clock', lts', uts', s.fin, s.lower, s.com, s.outcomes, status', inc', result',
      phase', hist'⟩ i :=
  ⟨h, rfl, rfl, rfl, rfl⟩

/-- Closes `Move s s' i` when `s'` is `s` with fields updated at `i` by `updF`. -/
macro "move_frame" : tactic => `(tactic| exact Move.mk' fun j hj => by simp [updF, hj])

/-- Every step is a `Move` of one `i`, or `finalize`, or `commit`.  That the mover is not final comes
    in the form that holds without `Inv1`: only a claim starts from `idle`; `Inv1.st_phase` covers the
    rest. -/
@[elab_as_elim]
theorem Step.move_cases {P : Params} {s s' : State} {motive : State → Prop} (hs : Step P s s')
    (move : ∀ i s', Move s s' i → (s.phase i = .idle → s.status i ≠ .finality) → motive s')
    (finalize : s.fin < P.n → s.phase s.fin = .idle → s.status s.fin = .unconfirmed →
      s.uts s.fin > max s.lower (s.lts s.fin) →
      motive { s with lower := max s.lower (s.lts s.fin),
                      status := updF s.status s.fin .finality, fin := s.fin + 1 })
    (commit : ∀ r, s.com < s.fin → s.result s.com = some r →
      motive { s with outcomes := s.outcomes ++ [r.out], com := s.com + 1 }) : motive s' := by
  cases hs with
  | finalize hi hp hst hg => exact finalize hi hp hst hg
  | commit r hc hr => exact commit r hc hr
  | claimExec i _ _ hst | claimVal i _ hst =>
    exact move i _ (by move_frame) fun _ => by rcases hst with e | e <;> simp [e]
  | execReadMv i | execReadMiss i | execFetch i | execFinishOk i | execFinishErr i | publishOne i
  | endPublish i | removeOne i | recordBlocked i | recordRewind i | recordDirect i | markErrSome i
  | markErrNone i | markValSome i | markValNone i | endErrMark i | tailTs i | tailSkip i | tailLts i
  | valTs i | valCheck i | endScanConflict i | endScanOk i | endValMark i =>
    exact move i _ (by move_frame) fun e => by simp [*] at e

end Grevm.Sched
