/- Invariant group 3 of the pipeline model: provenance of every recorded read (its ghost value is
   what the recorded version wrote, or the value of the committed-state cache at some commit cursor
   not beyond the current one) and consistency of recorded runs with the transaction's program. -/
import Grevm.Lemmas.SchedInv2

namespace Grevm.Sched

open Grevm.Block

def ReadProv (P : Params) (s : State) (i : TxId) (r : ReadRec) : Prop :=
  match r.ver with
  | some (k, m) => k < i ∧ ∃ w, s.hist k m = some w ∧ lookup w r.loc = some r.val
  | none => ∃ c, c ≤ s.com ∧ r.val = cval P s c r.loc

def toPairs (rs : List ReadRec) : List (Loc × Val) := rs.map (fun r => (r.loc, r.val))

/-- Read lists held by the worker inside transaction `i`. -/
def phaseReads : Phase → List ReadRec
  | .reading _ reads _ => reads
  | .fetching _ _ reads _ => reads
  | .publishing run _ _ => run.reads
  | .removing run _ _ => run.reads
  | _ => []

/-- While the run is under way: any run of the remaining program, prefixed by the reads recorded so
    far (`reads` holds the newest first), is a run of `P.txs i`. -/
def ConsPhase (P : Params) (s : State) (i : TxId) : Prop :=
  match s.phase i with
  | .reading p reads _ =>
      ∀ rest out, Consistent p rest out → Consistent (P.txs i) (toPairs reads.reverse ++ rest) out
  | .fetching l k reads _ =>
      ∀ rest out, Consistent (.read l k) rest out →
        Consistent (P.txs i) (toPairs reads.reverse ++ rest) out
  | .publishing run _ _ => Consistent (P.txs i) (toPairs run.reads) (.ok run.writes run.out)
  | .removing run _ _ => Consistent (P.txs i) (toPairs run.reads) (.ok run.writes run.out)
  | _ => True

structure TxInv3 (P : Params) (s : State) (i : TxId) : Prop where
  res_prov : ∀ r, s.result i = some r → ∀ x ∈ r.reads, ReadProv P s i x
  phase_prov : ∀ x ∈ phaseReads (s.phase i), ReadProv P s i x
  cons_phase : ConsPhase P s i
  cons_res : ∀ r, s.result i = some r → OkRes r → Consistent (P.txs i) (toPairs r.reads) r.out

def Inv3 (P : Params) (s : State) : Prop := ∀ i, TxInv3 P s i

theorem inv3_init (P : Params) : Inv3 P init :=
  fun _ => ⟨fun _ h => (nomatch h), List.forall_mem_nil _, trivial, fun _ h => (nomatch h)⟩

/-- Provenance is stable: the history only grows, the commit cursor only grows, and the results
    below the commit cursor (hence the committed cache at every cursor position reached so far) are
    never rewritten. -/
theorem ReadProv.mono {P : Params} {s s' : State} {i : TxId} {r : ReadRec} (h : ReadProv P s i r)
    (hm : ∀ k m w, s.hist k m = some w → s'.hist k m = some w) (hcom : s.com ≤ s'.com)
    (hfro : ∀ j, j < s.com → s'.result j = s.result j) : ReadProv P s' i r := by
  revert h; unfold ReadProv; split
  · rintro ⟨hk, w, hw, hl⟩
    exact ⟨hk, w, hm _ _ w hw, hl⟩
  · rintro ⟨c, hc, hval⟩
    exact ⟨c, Nat.le_trans hc hcom,
      hval.trans (cval_frozen fun j hj => hfro j (Nat.lt_of_lt_of_le hj hc)).symm⟩

theorem TxInv3.frame {P : Params} {s s' : State} {j : TxId} (h : TxInv3 P s j)
    (hph : s'.phase j = s.phase j) (hres : s'.result j = s.result j)
    (keep : ∀ x, ReadProv P s j x → ReadProv P s' j x) : TxInv3 P s' j where
  res_prov r hr x hx := keep x (h.res_prov r (hres ▸ hr) x hx)
  phase_prov x hx := keep x (h.phase_prov x (hph ▸ hx))
  cons_phase := by unfold ConsPhase; rw [hph]; exact h.cons_phase
  cons_res r hr := h.cons_res r (hres ▸ hr)

/-- `other_tx` for group 3; `keep` is the stability of provenance. -/
macro "other_tx3" h:ident keep:ident j:ident hj:ident : tactic =>
  `(tactic| exact ($h $j).frame (by simp [setPhase, updF, $hj:ident]) (by simp [setPhase, updF, $hj:ident])
      (fun x => $keep $j x))

theorem Inv3.rephase {P : Params} {s s' : State} {i : TxId} {p' : Phase}
    {mv' clock' lts' uts' fin' lower' com' outcomes' status' inc' result' hist'} (h : Inv3 P s)
    (es : s' = ⟨mv', clock', lts', uts', fin', lower', com', outcomes', status', inc', result',
      updF s.phase i p', hist'⟩)
    (keep : ∀ j x, ReadProv P s j x → ReadProv P s' j x)
    (hres : result' = s.result ∨ ∃ r', result' = updF s.result i (some r') ∧
      (∀ x ∈ r'.reads, ReadProv P s' i x) ∧
      (OkRes r' → Consistent (P.txs i) (toPairs r'.reads) r'.out))
    (hprov : ∀ x ∈ phaseReads p', ReadProv P s' i x) (hcons : ConsPhase P s' i) : Inv3 P s' := by
  have hp' : s'.phase i = p' := by rw [es]; exact updF_same
  have hprov := hp' ▸ hprov
  subst es
  rcases hres with rfl | ⟨r', rfl, hrp, hrc⟩
  · exact of_others i (fun j hj => by other_tx3 h keep j hj)
      ⟨fun r hr x hx => keep i x ((h i).res_prov r hr x hx), hprov, hcons, (h i).cons_res⟩
  · exact of_others i (fun j hj => by other_tx3 h keep j hj) {
      res_prov := fun r hr => by simp only [updF_same] at hr; cases hr; exact hrp
      phase_prov := hprov
      cons_phase := hcons
      cons_res := fun r hr => by simp only [updF_same] at hr; cases hr; exact hrc }

theorem toPairs_append (a b : List ReadRec) : toPairs (a ++ b) = toPairs a ++ toPairs b := by
  simp [toPairs]

theorem inv3_step {P : Params} {s s' : State} (h1 : Inv1 P s) (h2 : Inv2 s) (h : Inv3 P s)
    (hs : Step P s s') : Inv3 P s' := by
  have keep : ∀ (j : TxId) (x : ReadRec), ReadProv P s j x → ReadProv P s' j x :=
    fun _ _ hx => hx.mono (step_hist_mono h2 hs) (step_com_mono hs)
      fun j hj => (step_frozen h1 hs j (Nat.lt_of_lt_of_le hj h1.com_le.1)).1
  cases hs with
  | finalize | commit => exact fun j => (h j).frame rfl rfl (keep j)
  | claimExec i | execFinishErr i | markErrSome i | markErrNone i | markValSome i | markValNone i
  | tailTs i | tailLts i | tailSkip i | claimVal i | valTs i | valCheck i | endScanConflict i
  | endScanOk i | endValMark i =>
    -- only `claimExec` has a `ConsPhase` to prove: that of the empty read list, an identity
    exact h.rephase rfl keep (.inl rfl) (List.forall_mem_nil _)
      (by simp [ConsPhase, setPhase, toPairs])
  | execReadMiss i | publishOne i | endPublish i | removeOne i =>
    have hp := ‹s.phase i = _›
    refine h.rephase rfl keep (.inl rfl)
      (fun x hx => keep i x ((h i).phase_prov x (hp ▸ hx))) ?_
    simpa [ConsPhase, setPhase, hp] using (h i).cons_phase
  | execReadMv i l k reads _ _ _ hp | execFetch i l k reads _ hp =>
    have hcp := (h i).cons_phase; have hpp := hp ▸ (h i).phase_prov
    simp only [ConsPhase, hp] at hcp
    refine h.rephase rfl keep (.inl rfl) (fun x hx => ?_) ?_
    · rcases List.mem_cons.mp hx with rfl | hx
      · first
        | -- `execFetch`: the committed cache at the present cursor (`result` is untouched)
          exact ⟨s.com, Nat.le_refl _, (cval_congr (by rfl) _ _).symm⟩
        | -- `execReadMv`: the value of the entry read is what its incarnation wrote
          obtain ⟨hlt, hmv, _⟩ := resolve_some ‹_ = some _›
          obtain ⟨w, hw, hl⟩ := (h2 _).entry _ _ hmv
          exact ⟨hlt, w, hw, hl⟩
      · exact keep i x (hpp x hx)
    · simp only [ConsPhase, setPhase, updF_same]
      intro rest out hc
      rw [List.reverse_cons, toPairs_append, List.append_assoc]
      exact hcp _ out ⟨rfl, hc⟩
  | execFinishOk i w o reads blocked hp =>
    have hcp := (h i).cons_phase; have hpp := hp ▸ (h i).phase_prov
    simp only [ConsPhase, hp] at hcp
    refine h.rephase rfl keep (.inl rfl)
      (fun x hx => keep i x (hpp x (List.mem_reverse.mp hx))) ?_
    simpa [ConsPhase] using hcp [] (.ok w o) rfl
  | recordBlocked i run | recordRewind i run | recordDirect i run =>
    have hp := ‹s.phase i = _›
    have hcp := (h i).cons_phase; have hpp := hp ▸ (h i).phase_prov
    simp only [ConsPhase, hp] at hcp
    exact h.rephase rfl keep (.inr ⟨_, rfl, fun x hx => keep i x (hpp x hx), fun _ => hcp⟩)
      (List.forall_mem_nil _) (by simp [ConsPhase, setPhase])
  | endErrMark i e ow hp =>
    exact h.rephase rfl keep (.inr ⟨_, rfl, List.forall_mem_nil _, fun ⟨o, ho⟩ => by cases ho⟩)
      (List.forall_mem_nil _) (by simp [ConsPhase])

end Grevm.Sched
