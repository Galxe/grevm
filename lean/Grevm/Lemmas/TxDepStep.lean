/-
`Grevm.TxDep.step` as a relation: one constructor per branch of the executable model, indexed by the
program counter the thread leaves, so that `cases` on a step whose pc is known yields only the
branches of that pc.  The end of a `remove` iteration stays the function `rmContinue`; what is
needed of it is `rmContinue_cases`; its outcome enters a constructor through an equation, so that
`cases` also works on a step whose outcome is partly known.
-/
import Grevm.Model.TxDep

namespace Grevm.TxDep

variable {s : State} {t u : Tid} {p : Pc}

theorem upd_same {α : Type} {f : Nat → α} {i : Nat} {v : α} : upd f i v i = v := if_pos rfl

theorem upd_ne {α : Type} {f : Nat → α} {i : Nat} {v : α} (j : Nat) (h : j ≠ i) :
    upd f i v j = f j :=
  if_neg h

theorem setPc_pc_same : (setPc s t p).pc t = p := upd_same

theorem setPc_pc_ne (h : u ≠ t) : (setPc s t p).pc u = s.pc u := upd_ne u h

theorem setPc_pc_cases {P : Pc → Prop} (hp : P p) (ho : ∀ u, u ≠ t → P (s.pc u)) (u : Tid) :
    P ((setPc s t p).pc u) := by
  by_cases hu : u = t
  · rw [hu, setPc_pc_same]; exact hp
  · rw [setPc_pc_ne hu]; exact ho u hu

def Act.tid : Act → Tid
  | .call t _ => t
  | .stepT t _ => t

def Act.pick : Act → Nat
  | .call _ _ => 0
  | .stepT _ p => p

/-- The value `key_tx` writes into `dependency[x]`. -/
def keyDep (s : State) (x : Nat) : Option Nat := if x > s.committed then some x else s.dependency x

/-- Last part of the step that ends `remove(d)`: clear `affect[d]`, release its mutex. -/
def rmFinish (s : State) (t : Tid) (d : Nat) : State :=
  setPc { s with affect := upd s.affect d [], affLock := upd s.affLock d none } t .idle

variable {s' : State} {d pick : Nat} {pop : Bool} {seen : List Nat} {nx : Option Nat}
  {r : Ret} {o : State × Ret}

theorem rmContinue_cases {motive : State × Ret → Prop}
    (fin : (∀ x ∈ s.affect d, x ∈ seen) → motive (rmFinish s t d, some nx))
    (cont : motive (setPc s t (.rmIter d pop seen nx), none)) :
    motive (rmContinue s t d pop seen nx) := by
  unfold rmContinue
  split
  · rename_i h; exact fin (by simpa using h)
  · exact cont

theorem rmContinue_inv {I : State → Prop} (fin : (∀ x ∈ s.affect d, x ∈ seen) → I (rmFinish s t d))
    (cont : I (setPc s t (.rmIter d pop seen nx))) : I (rmContinue s t d pop seen nx).1 :=
  rmContinue_cases (motive := fun o => I o.1) fin cont

/-- The end of a `remove` iteration writes none of `onboard`, `dependency`, `index`; it returns the
    carried hand-off value and goes `idle`, or returns nothing and carries the value on. -/
theorem rmContinue_spec (ho : rmContinue s t d pop seen nx = (s', r)) :
    s'.onboard = s.onboard ∧ s'.dependency = s.dependency ∧ s'.index = s.index ∧
      ((r = some nx ∧ s'.pc t = .idle) ∨ (r = none ∧ s'.pc t = .rmIter d pop seen nx)) := by
  revert ho
  refine rmContinue_cases (motive := fun o => o = (s', r) → _) (fun _ => ?_) ?_ <;> rintro ⟨⟩
  · exact ⟨rfl, rfl, rfl, .inl ⟨rfl, upd_same⟩⟩
  · exact ⟨rfl, rfl, rfl, .inr ⟨rfl, upd_same⟩⟩

/-- `Step s t pick p o`: thread `t`, at `p`, takes one step (iteration choice `pick`) with outcome
    `o`.  The hypotheses are the branch conditions of `step` as they stand there. -/
inductive Step (s : State) (t : Tid) (pick : Nat) : Pc → State × Ret → Prop
  | callNext : Step s t pick .idle (setPc s t .nextLoad, none)
  | callRemove {d : Nat} {pop : Bool} (hd : d < s.n) :
      Step s t pick .idle (setPc s t (.rmLockAff d pop), none)
  | callCommit {x : Nat} (hx : x < s.n) : Step s t pick .idle (setPc s t (.pubCommit (x + 1)), none)
  | callKeyTx {x : Nat} (hx : x < s.n) : Step s t pick .idle (setPc s t (.keyLock x), none)
  | callAdd {x d : Nat} (hx : d < x ∧ x < s.n) :
      Step s t pick .idle (setPc s t (.addLockAff x d), none)
  | callAddNone {x : Nat} (hx : x < s.n) : Step s t pick .idle (setPc s t (.addNoneLock x), none)
  | nextLoadEnd (hi : s.index ≥ s.n) : Step s t pick .nextLoad (setPc s t .idle, some none)
  | nextLoadGo (hi : ¬ s.index ≥ s.n) : Step s t pick .nextLoad (setPc s t .nextAdd, none)
  | nextAddEnd (hi : s.index ≥ s.n) :
      Step s t pick .nextAdd (setPc { s with index := s.index + 1 } t .idle, some none)
  | nextAddGo (hi : ¬ s.index ≥ s.n) :
      Step s t pick .nextAdd (setPc { s with index := s.index + 1 } t (.nextLock s.index), none)
  | nextLockClaim {idx : Nat} (hl : s.depLock idx = none)
      (hc : s.onboard idx = true ∧ s.dependency idx = none) :
      Step s t pick (.nextLock idx)
        (setPc { s with onboard := upd s.onboard idx false } t .idle, some (some idx))
  | nextLockMiss {idx : Nat} (hl : s.depLock idx = none)
      (hc : ¬ (s.onboard idx = true ∧ s.dependency idx = none)) :
      Step s t pick (.nextLock idx) (setPc s t .idle, some none)
  | rmLockAffEmpty {d : Nat} {pop : Bool} (hl : s.affLock d = none) (he : (s.affect d).isEmpty) :
      Step s t pick (.rmLockAff d pop) (setPc s t .idle, some none)
  | rmLockAffGo {d : Nat} {pop : Bool} (hl : s.affLock d = none) (he : ¬ (s.affect d).isEmpty) :
      Step s t pick (.rmLockAff d pop)
        (setPc { s with affLock := upd s.affLock d (some t) } t (.rmIter d pop [] none), none)
  | rmIterOffer {d : Nat} {pop : Bool} {seen : List Nat} {nx : Option Nat}
      (hin : (s.affect d).contains pick ∧ !seen.contains pick) (hl : s.depLock pick = none)
      (hdep : s.dependency pick = some d) (hon : s.onboard pick = true)
      (hh : ¬ (pop = true ∧ pick = d + 1 ∧ s.index > pick)) :
      Step s t pick (.rmIter d pop seen nx)
        (setPc { s with dependency := upd s.dependency pick none,
                        depLock := upd s.depLock pick (some t) } t
          (.rmMin d pop (pick :: seen) nx pick), none)
  | rmIterHandoff {d : Nat} {pop : Bool} {seen : List Nat} {nx : Option Nat}
      (hin : (s.affect d).contains pick ∧ !seen.contains pick) (hl : s.depLock pick = none)
      (hdep : s.dependency pick = some d) (hon : s.onboard pick = true)
      (hh : pop = true ∧ pick = d + 1 ∧ s.index > pick) {o : State × Ret}
      (ho : rmContinue { s with dependency := upd s.dependency pick none,
                                onboard := upd s.onboard pick false } t d pop (pick :: seen)
              (some pick) = o) :
      Step s t pick (.rmIter d pop seen nx) o
  | rmIterClear {d : Nat} {pop : Bool} {seen : List Nat} {nx : Option Nat}
      (hin : (s.affect d).contains pick ∧ !seen.contains pick) (hl : s.depLock pick = none)
      (hdep : s.dependency pick = some d) (hon : ¬ s.onboard pick = true) {o : State × Ret}
      (ho : rmContinue { s with dependency := upd s.dependency pick none } t d pop (pick :: seen)
              nx = o) :
      Step s t pick (.rmIter d pop seen nx) o
  | rmIterStale {d : Nat} {pop : Bool} {seen : List Nat} {nx : Option Nat}
      (hin : (s.affect d).contains pick ∧ !seen.contains pick) (hl : s.depLock pick = none)
      (hdep : ¬ s.dependency pick = some d) {o : State × Ret}
      (ho : rmContinue s t d pop (pick :: seen) nx = o) :
      Step s t pick (.rmIter d pop seen nx) o
  | rmMin {d : Nat} {pop : Bool} {seen : List Nat} {nx : Option Nat} {tx : Nat} {o : State × Ret}
      (ho : rmContinue { s with index := min s.index tx, depLock := upd s.depLock tx none } t d
              pop seen nx = o) :
      Step s t pick (.rmMin d pop seen nx tx) o
  | pubCommitGo {v : Nat} (hv : v < s.n) :
      Step s t pick (.pubCommit v) (setPc { s with committed := v } t (.cmLock v), none)
  | pubCommitEnd {v : Nat} (hv : ¬ v < s.n) :
      Step s t pick (.pubCommit v) (setPc { s with committed := v } t .idle, some none)
  | cmLockGo {nx : Nat} (hl : s.depLock nx = none) (hon : s.onboard nx = true) :
      Step s t pick (.cmLock nx)
        (setPc { s with dependency := upd s.dependency nx none,
                        depLock := upd s.depLock nx (some t) } t (.cmMin nx), none)
  | cmLockSkip {nx : Nat} (hl : s.depLock nx = none) (hon : ¬ s.onboard nx = true) :
      Step s t pick (.cmLock nx) (setPc s t .idle, some none)
  | cmMin {nx : Nat} :
      Step s t pick (.cmMin nx)
        (setPc { s with index := min s.index nx, depLock := upd s.depLock nx none } t .idle,
         some none)
  | keyLock {x : Nat} (hl : s.depLock x = none) :
      Step s t pick (.keyLock x)
        (setPc { s with depLock := upd s.depLock x (some t) } t (.keyRead x), none)
  | keyReadMin {x : Nat} (hd : keyDep s x = none) :
      Step s t pick (.keyRead x)
        (setPc { s with dependency := upd s.dependency x (keyDep s x),
                        onboard := upd s.onboard x true } t (.keyMin x), none)
  | keyReadEnd {x : Nat} (hd : ¬ keyDep s x = none) :
      Step s t pick (.keyRead x)
        (setPc { s with dependency := upd s.dependency x (keyDep s x),
                        onboard := upd s.onboard x true,
                        depLock := upd s.depLock x none } t .idle, some none)
  | keyMin {x : Nat} :
      Step s t pick (.keyMin x)
        (setPc { s with index := min s.index x, depLock := upd s.depLock x none } t .idle,
         some none)
  | addLockAff {x d : Nat} (hl : s.affLock d = none) :
      Step s t pick (.addLockAff x d)
        (setPc { s with affLock := upd s.affLock d (some t) } t (.addLockDep x d), none)
  | addLockDep {x d : Nat} (hl : s.depLock d = none) :
      Step s t pick (.addLockDep x d)
        (setPc { s with depLock := upd s.depLock d (some t) } t (.addLockTx x d), none)
  | addLockTxMin {x d : Nat} (hl : s.depLock x = none) (hd : s.dependency d = none) :
      Step s t pick (.addLockTx x d)
        (setPc { s with
            dependency := upd s.dependency x (some d),
            onboard := upd (upd s.onboard x true) d true,
            affect := upd s.affect d (if (s.affect d).contains x then s.affect d
                                      else x :: s.affect d),
            depLock := upd s.depLock x (some t) } t (.addMin x d), none)
  | addLockTxEnd {x d : Nat} (hl : s.depLock x = none) (hd : ¬ s.dependency d = none) :
      Step s t pick (.addLockTx x d)
        (setPc { s with
            dependency := upd s.dependency x (some d),
            onboard := upd (upd s.onboard x true) d true,
            affect := upd s.affect d (if (s.affect d).contains x then s.affect d
                                      else x :: s.affect d),
            depLock := upd s.depLock d none,
            affLock := upd s.affLock d none } t .idle, some none)
  | addMin {x d : Nat} :
      Step s t pick (.addMin x d)
        (setPc { s with index := min s.index d,
                        depLock := upd (upd s.depLock x none) d none,
                        affLock := upd s.affLock d none } t .idle, some none)
  | addNoneLockGo {x : Nat} (hl : s.depLock x = none) (hon : s.onboard x = false) :
      Step s t pick (.addNoneLock x)
        (setPc { s with onboard := upd s.onboard x true,
                        dependency := upd s.dependency x none,
                        depLock := upd s.depLock x (some t) } t (.addNoneMin x), none)
  | addNoneLockSkip {x : Nat} (hl : s.depLock x = none) (hon : ¬ s.onboard x = false) :
      Step s t pick (.addNoneLock x) (setPc s t .idle, some none)
  | addNoneMin {x : Nat} :
      Step s t pick (.addNoneMin x)
        (setPc { s with index := min s.index x, depLock := upd s.depLock x none } t .idle,
         some none)

-- with the update functions opaque `constructor` rejects a wrong constructor on sight
attribute [local irreducible] upd setPc rmContinue in
theorem step_sound {a : Act} (h : step s a = some o) :
    Step s a.tid a.pick (s.pc a.tid) o := by
  revert h
  fun_cases step s a <;> rintro ⟨⟩ <;> simp only [Act.tid, Act.pick, ‹s.pc _ = _›] <;>
    first
    | (constructor <;> first | assumption | rfl)
    -- `constructor` commits to `rmIterHandoff`, whose outcome is a variable and unifies with these too
    | exact .rmIterClear ‹_› ‹_› ‹_› ‹_› rfl
    | exact .rmIterStale ‹_› ‹_› ‹_› rfl

theorem Step.of_step (hpc : s.pc t = p) (h : step s (.stepT t pick) = some o) :
    Step s t pick p o :=
  hpc ▸ (step_sound h : Step s t pick (s.pc t) o)

end Grevm.TxDep
