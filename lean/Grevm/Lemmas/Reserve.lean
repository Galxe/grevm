/-
From `requiredAfter` as implemented to its specification: the binary search drops a prefix of the
sender's ascending id list (`drop_partitionPoint`, `dropWhile_filter_range'`), the suffix array
holds the saturating cost of what is left (`costFrom_getD`, `requiredAfter_eq_sufCost`), and that
cost over a window of the block is `reqFrom` (`sufCost_filter_range'`).
-/
import Grevm.Model.Reserve

namespace Grevm.Reserve

theorem satAdd_eq_min (a b : Nat) : satAdd a b = min (a + b) MAXU := by
  unfold satAdd; split <;> omega

theorem satAdd_min (s x : Nat) : satAdd (min s MAXU) x = min (s + x) MAXU := by
  rw [satAdd_eq_min, ← Nat.add_min_add_right, Nat.min_assoc,
    Nat.min_eq_right (Nat.le_add_right ..)]

theorem sumFrom_succ (txs : List Tx) (a k m : Nat) :
    sumFrom txs a k (m + 1) =
      (if (txs.getD k default).caller == a then (txs.getD k default).maxCost else 0)
        + sumFrom txs a (k + 1) m := by
  simp only [sumFrom]
  split
  · exact Nat.add_comm ..
  · exact (Nat.zero_add _).symm

theorem drop_partitionPoint (t : Nat) (l : List Nat) :
    l.drop (partitionPoint t l) = l.dropWhile (· ≤ t) := by
  induction l with
  | nil => rfl
  | cons i rest ih =>
    simp only [partitionPoint, List.dropWhile_cons, decide_eq_true_eq]
    split
    · rw [Nat.add_comm, List.drop_succ_cons, ih]
    · rfl

/-- Saturating cost of a list of ids, accumulated from the right. -/
def sufCost (txs : List Tx) (ids : List Nat) : Nat :=
  ids.foldr (fun i acc => satAdd acc ((txs.getD i default).maxCost)) 0

theorem costFrom_cons (txs : List Tx) (i : Nat) (ids : List Nat) :
    costFrom txs (i :: ids) = sufCost txs (i :: ids) :: costFrom txs ids := by
  induction ids generalizing i with
  | nil => rfl
  | cons j rest ih => rw [costFrom, ih]; rfl

theorem costFrom_getD (txs : List Tx) (ids : List Nat) (j : Nat) :
    (costFrom txs ids).getD j 0 = sufCost txs (ids.drop j) := by
  induction ids generalizing j with
  | nil => rw [List.drop_nil]; rfl
  | cons i rest ih =>
      rw [costFrom_cons]
      cases j with
      | zero => rfl
      | succ j => exact ih j

theorem requiredAfter_eq_sufCost (txs : List Tx) (txid a : Nat) :
    requiredAfter txs txid a = sufCost txs ((senderIds txs a).dropWhile (· ≤ txid)) := by
  rw [← drop_partitionPoint]
  simp only [requiredAfter]
  split
  · rename_i h
    rw [eq_of_beq h, List.drop_length]
    rfl
  · exact costFrom_getD ..

theorem sufCost_filter_range' (txs : List Tx) (a : Nat) (m k : Nat) :
    sufCost txs ((List.range' k m).filter fun i => (txs.getD i default).caller == a) =
      reqFrom txs a k m := by
  induction m generalizing k with
  | zero => rfl
  | succ m ih =>
      rw [List.range'_succ, List.filter_cons, reqFrom, ← ih]
      split
      · exact List.foldr_cons ..
      · rfl

/-- On the ascending index list, dropping the ids `≤ t` leaves the ids of the window after `t`. -/
theorem dropWhile_filter_range' (p : Nat → Bool) {t n : Nat} (h : t < n) :
    ((List.range' 0 n).filter p).dropWhile (· ≤ t) = (List.range' (t + 1) (n - (t + 1))).filter p := by
  obtain ⟨m, rfl⟩ := Nat.exists_eq_add_of_le h
  rw [← List.range'_append_1, List.filter_append, List.dropWhile_append_of_pos, Nat.zero_add,
    Nat.add_sub_cancel_left]
  · cases h : (List.range' (t + 1) m).filter p with
    | nil => rfl
    | cons x l =>
      have := List.mem_range'_1.1 (List.mem_filter.1 (h ▸ List.mem_cons_self)).1
      exact List.dropWhile_cons_of_neg (by simp; omega)
  · intro x hx
    have := List.mem_range'_1.1 (List.mem_filter.1 hx).1
    simp; omega

end Grevm.Reserve
