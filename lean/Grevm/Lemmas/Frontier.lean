/- Invariants of the execution-frontier model (helper lemmas for C15). -/
import Grevm.Model.Cursor

namespace Grevm.Cursor.Frontier

/-- Per-thread condition, monotone in the `executed` flags and the frontier. -/
def ThreadOk (n : Nat) (ex : Nat → Bool) (fr : Nat) : Pc → Prop
  | .advScan a b _ => a ≤ b ∧ b ≤ n ∧ (∀ i, i < b → ex i = true) ∧ a ≤ fr
  | .advMax a b _ => a ≤ b ∧ b ≤ n ∧ (∀ i, i < b → ex i = true) ∧ a ≤ fr
  | .curCheck f => (∀ i, i < f → ex i = true) ∧ f ≤ n ∧ f ≤ fr
  | .pubLoad1 i => i < n
  | .pubStore i => i < n
  | .pubLoad2 i => i < n
  | _ => True

theorem ThreadOk.mono {n : Nat} {ex ex' : Nat → Bool} {fr fr' : Nat} {p : Pc}
    (h : ThreadOk n ex fr p) (hex : ∀ i, ex i = true → ex' i = true) (hfr : fr ≤ fr') :
    ThreadOk n ex' fr' p := by
  cases p with
  | advScan | advMax =>
    exact ⟨h.1, h.2.1, fun i hi => hex i (h.2.2.1 i hi), Nat.le_trans h.2.2.2 hfr⟩
  | curCheck => exact ⟨fun i hi => hex i (h.1 i hi), h.2.1, Nat.le_trans h.2.2 hfr⟩
  | _ => exact h

/-- Thread `t` is committed to moving the frontier past its current value. -/
def Resp (s : State) (t : Nat) : Prop :=
  (∃ a b r, s.pc t = .advScan a b r) ∨ (∃ a b r, s.pc t = .advMax a b r) ∨
    s.pc t = .pubLoad2 s.frontier

structure Inv (s : State) : Prop where
  sound : ∀ i, i < s.frontier → s.executed i = true
  le : s.frontier ≤ s.n
  threads : ∀ t, ThreadOk s.n s.executed s.frontier (s.pc t)
  progress : s.frontier < s.n → s.executed s.frontier = true → ∃ t, Resp s t

theorem Inv.thread {s : State} (hi : Inv s) {t : Nat} {q : Pc} (hq : s.pc t = q) :
    ThreadOk s.n s.executed s.frontier q :=
  hq ▸ hi.threads t

theorem inv_init (n : Nat) : Inv (init n) :=
  ⟨nofun, Nat.zero_le n, fun _ => trivial, nofun⟩

@[simp] theorem setPc_pc (s : State) (t u : Nat) (p : Pc) :
    (setPc s t p).pc u = if u = t then p else s.pc u := rfl
@[simp] theorem setPc_frontier (s : State) (t : Nat) (p : Pc) : (setPc s t p).frontier = s.frontier := rfl
@[simp] theorem setPc_executed (s : State) (t : Nat) (p : Pc) : (setPc s t p).executed = s.executed := rfl
@[simp] theorem setPc_n (s : State) (t : Nat) (p : Pc) : (setPc s t p).n = s.n := rfl

/-- `Resp` read off the control state, so that it computes on a constructor. -/
def Pc.Resp (fr : Nat) : Pc → Prop
  | .advScan .. | .advMax .. => True
  | .pubLoad2 i => i = fr
  | _ => False

theorem resp_iff {s : State} {t : Nat} : Resp s t ↔ (s.pc t).Resp s.frontier := by
  unfold Resp
  generalize s.pc t = p
  constructor
  · rintro (⟨_, _, _, rfl⟩ | ⟨_, _, _, rfl⟩ | rfl) <;> first | trivial | rfl
  · cases p with
    | advScan => exact fun _ => .inl ⟨_, _, _, rfl⟩
    | advMax => exact fun _ => .inr (.inl ⟨_, _, _, rfl⟩)
    | pubLoad2 => exact fun h => .inr (.inr (h ▸ rfl))
    | _ => exact False.elim

/-- Thread `t` moves from `q` to `p` while the flags grow to `ex'` and the frontier to `fr'`.
    `hprog`: unless `t` leaves responsible for `fr'`, nothing happened at `fr'` and `t` was not the
    one responsible for it. -/
theorem Inv.update {s : State} (hi : Inv s) {t : Nat} {q p : Pc} (hq : s.pc t = q)
    {ex' : Nat → Bool} {fr' : Nat}
    (hex : ∀ i, s.executed i = true → ex' i = true) (hfr : s.frontier ≤ fr') (hle : fr' ≤ s.n)
    (hsound : ∀ i, i < fr' → ex' i = true) (hp : ThreadOk s.n ex' fr' p)
    (hprog : fr' < s.n → ex' fr' = true → ¬ p.Resp fr' →
      fr' = s.frontier ∧ s.executed fr' = true ∧ ¬ q.Resp fr') :
    Inv (setPc { s with executed := ex', frontier := fr' } t p) := by
  refine ⟨hsound, hle, fun u => ?_, fun h1 h2 => ?_⟩
  · rw [setPc_pc]
    split
    · exact hp
    · exact (hi.threads u).mono hex hfr
  · by_cases hpr : p.Resp fr'
    · exact ⟨t, resp_iff.mpr (by rwa [setPc_pc, if_pos rfl])⟩
    · obtain ⟨rfl, h3, hqr⟩ := hprog h1 h2 hpr
      obtain ⟨u, hu⟩ := hi.progress h1 h3
      rw [resp_iff] at hu
      have hut : u ≠ t := fun h => hqr (hq ▸ h ▸ hu)
      exact ⟨u, resp_iff.mpr (by rwa [setPc_pc, if_neg hut])⟩

/-- The case of a step that touches neither the flags nor the frontier. -/
theorem Inv.setPc {s : State} (hi : Inv s) {t : Nat} {q p : Pc} (hq : s.pc t = q)
    (hp : ThreadOk s.n s.executed s.frontier p)
    (hr : q.Resp s.frontier → s.frontier < s.n → s.executed s.frontier = true →
      p.Resp s.frontier) : Inv (setPc s t p) :=
  hi.update hq (fun _ h => h) (Nat.le_refl _) hi.le hi.sound hp
    fun h1 h2 hpr => ⟨rfl, h2, fun hqr => hpr (hr hqr h1 h2)⟩

/-- What an event may claim about the state it is emitted from. -/
def EvOk (s : State) : Ev → Prop
  | .current _ f => ∀ i, i < f → s.executed i = true
  | _ => True

theorem step_ok {s : State} {a : Act} {o : State × Ev} (hi : Inv s) (h : step s a = some o) :
    Inv o.1 ∧ EvOk s o.2 := by
  revert h
  -- one goal for each branch of `step` that returns `some`, in the order of its definition
  fun_cases step s a <;> intro h <;> cases h
  -- callPublish
  · next hpc hlt => exact ⟨hi.setPc hpc hlt False.elim, trivial⟩
  -- callCurrent
  · next hpc => exact ⟨hi.setPc hpc trivial False.elim, trivial⟩
  -- pubLoad1, already below the frontier
  · next hpc _ => exact ⟨hi.setPc hpc trivial False.elim, trivial⟩
  -- pubLoad1
  · next t i hpc _ => exact ⟨hi.setPc hpc (hi.thread hpc :) False.elim, trivial⟩
  -- pubStore
  · next t i hpc =>
    have hex : ∀ j, s.executed j = true → (if j = i then true else s.executed j) = true :=
      fun j hj => by rw [hj, ite_self]
    refine ⟨hi.update hpc hex (Nat.le_refl _) hi.le (fun j hj => hex j (hi.sound j hj))
      (hi.thread hpc) ?_, trivial⟩
    intro _ h2 hne
    rw [if_neg fun hfi => hne hfi.symm] at h2
    exact ⟨rfl, h2, id⟩
  -- pubLoad2 at the frontier: this thread advances
  · next hpc =>
    exact ⟨hi.setPc hpc ⟨Nat.le_refl _, hi.le, hi.sound, Nat.le_refl _⟩ fun _ _ _ => trivial,
      trivial⟩
  -- pubLoad2 elsewhere
  · next hpc hif => exact ⟨hi.setPc hpc trivial fun h => absurd h hif, trivial⟩
  -- curLoad
  · next hpc => exact ⟨hi.setPc hpc ⟨hi.sound, hi.le, Nat.le_refl _⟩ False.elim, trivial⟩
  -- curCheck, frontier index executed: advance
  · next t f hpc _ =>
    have hth := hi.thread hpc
    exact ⟨hi.setPc hpc ⟨Nat.le_refl _, hth.2.1, hth.1, hth.2.2⟩ False.elim, trivial⟩
  -- curCheck
  · next t f hpc _ =>
    exact ⟨hi.setPc hpc trivial False.elim, (hi.thread hpc).1⟩
  -- curReload
  · next hpc => exact ⟨hi.setPc hpc trivial False.elim, hi.sound⟩
  -- advScan, next index executed
  · next t a b r hpc hc =>
    obtain ⟨hab, _, hall, hafr⟩ := hi.thread hpc
    exact ⟨hi.setPc hpc
      ⟨Nat.le_succ_of_le hab, hc.1, Nat.forall_lt_succ_right.mpr ⟨hall, hc.2⟩, hafr⟩
      fun _ _ _ => trivial, trivial⟩
  -- advScan, nothing scanned: `advance` returns
  · next t b r hc hpc =>
    -- `advance` returns without a `fetch_max`: then `b` is the frontier, and `hc` says that the
    -- frontier index is not executed
    obtain ⟨_, _, _, hafr⟩ := hi.thread hpc
    have hb : b = s.frontier := Nat.le_antisymm hafr
      (Nat.le_of_not_lt fun hlt => hc ⟨Nat.lt_of_lt_of_le hlt hi.le, hi.sound b hlt⟩)
    cases r <;> exact ⟨hi.setPc hpc trivial fun _ h1 h2 => absurd (hb ▸ ⟨h1, h2⟩) hc, trivial⟩
  -- advScan, scan finished
  · next t a b r hpc _ _ =>
    exact ⟨hi.setPc hpc (hi.thread hpc :) fun _ _ _ => trivial, trivial⟩
  -- advMax
  · next t a b r hpc =>
    obtain ⟨_, hbn, hall, _⟩ := hi.thread hpc
    have hle : max s.frontier b ≤ s.n := Nat.max_le.mpr ⟨hi.le, hbn⟩
    -- the new frontier is the old one or `b`
    have hsound : ∀ i, i < max s.frontier b → s.executed i = true :=
      (Std.max_eq_or (a := s.frontier) (b := b)).elim (·.symm ▸ hi.sound) (·.symm ▸ hall)
    exact ⟨hi.update hpc (fun _ h => h) (Nat.le_max_left _ _) hle hsound
      ⟨Nat.le_refl _, hle, hsound, Nat.le_refl _⟩ fun _ _ hne => (hne trivial).elim,
      trivial⟩

theorem inv_run {as : List Act} {s s' : State} {es : List Ev} (hi : Inv s)
    (h : run s as = some (s', es)) : Inv s' := by
  induction as generalizing s es with
  | nil => cases h; exact hi
  | cons a as ih =>
    rw [run] at h
    split at h
    · cases h
    · next hstep =>
      split at h <;> cases h
      next hrun => exact ih (step_ok hi hstep).1 hrun

end Grevm.Cursor.Frontier
