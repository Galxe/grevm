/-
`Commit.replay` has two cases, not three: a result that has an outcome (`ok`, `invalid`) is
reported and the replay goes on (`replay_cons_of_toOutcome`); a fatal one ends it (by `rfl`).  The
proofs of C03/C04/C06 use `replay` through these and the induction principle below.
-/
import Grevm.Model.Commit

namespace Grevm.Commit

theorem replay_cons_of_toOutcome {x : TxRes} {o : Outcome} (h : toOutcome x = some o)
    (rest : List TxRes) :
    replay (x :: rest) = (o :: (replay rest).1, (replay rest).2.map fun p => (p.1 + 1, p.2)) := by
  cases x <;> cases h <;> rfl

theorem toOutcome_eq_some_iff {x : TxRes} : (∃ o, toOutcome x = some o) ↔ ∀ e, x ≠ .fatal e := by
  cases x <;> simp [toOutcome]

theorem replay_induction {motive : List TxRes → Prop} (nil : motive [])
    (fatal : ∀ e rest, motive (.fatal e :: rest))
    (step : ∀ x o rest, toOutcome x = some o → motive rest → motive (x :: rest)) :
    ∀ rs, motive rs
  | [] => nil
  | .fatal e :: rest => fatal e rest
  | .ok _ :: rest => step _ _ rest rfl (replay_induction nil fatal step rest)
  | .invalid _ :: rest => step _ _ rest rfl (replay_induction nil fatal step rest)

theorem replay_snd_eq_none_iff (rs : List TxRes) :
    (replay rs).2 = none ↔ ∀ r ∈ rs, ∀ e, r ≠ .fatal e := by
  induction rs using replay_induction with
  | nil => exact iff_of_true rfl (List.forall_mem_nil _)
  | fatal e rest => exact iff_of_false nofun fun h => h _ List.mem_cons_self e rfl
  | step x o rest ho ih =>
    rw [replay_cons_of_toOutcome ho, Option.map_eq_none_iff, ih, List.forall_mem_cons]
    exact (and_iff_right (toOutcome_eq_some_iff.1 ⟨o, ho⟩)).symm

end Grevm.Commit
