/-
edge_covered: every forward edge `dependency[x] = some d` (d ≠ x) has its reverse edge
`x ∈ affect[d]`, in every reachable state.  Only `add` creates a proper forward edge, together with
its reverse edge and under the mutex of `affect[d]`; only the end of `remove(d)` deletes reverse
edges, and by then every element of `affect[d]` has been processed and no longer names `d`.
-/
import Grevm.Lemmas.TxDepInv

namespace Grevm.TxDep

/-- `(d, seen)` of a thread inside the iteration of `remove(d)`. -/
def rmOf : Pc → Option (Nat × List Nat)
  | .rmIter d _ seen _ => some (d, seen)
  | .rmMin d _ seen _ _ => some (d, seen)
  | _ => none

theorem rmOf_holdsAff {p : Pc} {d : Nat} {seen : List Nat} (h : rmOf p = some (d, seen)) :
    HoldsAff p d := by
  unfold rmOf at h
  split at h <;> cases h <;> rfl

theorem mem_insertIfNew {x y : Nat} {l : List Nat} :
    y ∈ (if l.contains x then l else x :: l) ↔ y = x ∨ y ∈ l := by
  split <;> simp_all

/-- Forward edges are covered by reverse edges. -/
def EdgeCov (s : State) : Prop :=
  ∀ x d, s.dependency x = some d → d ≠ x → x ∈ s.affect d

/-- No element of `seen` names `d` as its blocker (the self-edge of `d` apart). -/
def Clear (dep : Nat → Option Nat) (d : Nat) (seen : List Nat) : Prop :=
  ∀ x ∈ seen, dep x = some d → x = d

/-- Elements already processed by a thread at `p` inside `remove(d)` no longer name `d`. -/
def SeenOk (dep : Nat → Option Nat) (p : Pc) : Prop :=
  ∀ d seen, rmOf p = some (d, seen) → Clear dep d seen

def SeenClear (s : State) : Prop := ∀ u, SeenOk s.dependency (s.pc u)

def NoNewEdge (dep dep' : Nat → Option Nat) : Prop :=
  ∀ y e, dep' y = some e → e ≠ y → dep y = some e

variable {dep dep' : Nat → Option Nat} {s σ : State} {t : Tid} {p p' : Pc} {d x : Nat}
  {pop : Bool} {seen : List Nat} {nx : Option Nat}

theorem NoNewEdge.rfl : NoNewEdge dep dep := fun _ _ h _ => h

theorem NoNewEdge.of_upd {v : Option Nat}
    (hv : ∀ e, v = some e → e ≠ x → dep x = some e) : NoNewEdge dep (upd dep x v) := by
  intro y e h hne
  by_cases hy : y = x
  · subst hy; exact hv e (upd_same.symm.trans h) hne
  · exact (upd_ne y hy).symm.trans h

theorem NoNewEdge.of_upd_none : NoNewEdge dep (upd dep x none) := .of_upd nofun

theorem NoNewEdge.of_keyDep (s : State) (x : Nat) :
    NoNewEdge s.dependency (upd s.dependency x (keyDep s x)) := by
  refine .of_upd fun e h hne => ?_
  unfold keyDep at h
  split at h
  · exact absurd (Option.some.inj h).symm hne
  · exact h

/-- `hn`: no new proper edge TO `d` (`NoNewEdge` at `d`, or less). -/
theorem Clear.mono (hn : ∀ y, dep' y = some d → d ≠ y → dep y = some d) (h : Clear dep d seen) :
    Clear dep' d seen := by
  intro x hx hd
  by_cases hne : d = x
  · exact hne.symm
  · exact h x hx (hn x hd hne)

theorem Clear.cons (hx : dep x ≠ some d)
    (h : Clear dep d seen) : Clear dep d (x :: seen) := by
  intro y hy hd
  rcases List.mem_cons.1 hy with rfl | hy
  · exact absurd hd hx
  · exact h y hy hd

def EdgeInv (s : State) : Prop := EdgeCov s ∧ SeenClear s

/-- A step of `t` that adds no proper forward edge and leaves `affect` alone.  `hp'` is
    `SeenOk σ.dependency p'`, written as a `match` so that at a given `p'` it is `Clear …` or `True`
    as it stands. -/
theorem EdgeInv.move (hinv : EdgeInv s) (hpc : σ.pc = s.pc)
    (haf : σ.affect = s.affect) (hn : NoNewEdge s.dependency σ.dependency)
    (hp' : match rmOf p' with
      | some (d, seen) => Clear σ.dependency d seen
      | none => True) :
    EdgeInv (setPc σ t p') := by
  refine ⟨fun x d hd hne => haf ▸ hinv.1 x d (hn x d hd hne) hne, ?_⟩
  exact setPc_pc_cases (fun _ _ h => by rwa [h] at hp') fun u _ d seen hu =>
    (hinv.2 u d seen (hpc ▸ hu)).mono (hn · d)

/-- The end of a `remove(d)` iteration: `seen` is clear, so `affect[d]` may be emptied once it
    lies within `seen`. -/
theorem EdgeInv.rmCont (hinv : EdgeInv s) (hpc : σ.pc = s.pc) (haf : σ.affect = s.affect)
    (hn : NoNewEdge s.dependency σ.dependency) (hc : Clear σ.dependency d seen) :
    EdgeInv (rmContinue σ t d pop seen nx).1 := by
  refine rmContinue_inv (fun hall => ?_) (hinv.move hpc haf hn hc)
  have := hinv.move (t := t) (p' := .idle) hpc haf hn trivial
  refine ⟨fun x e hd hne => ?_, this.2⟩
  have hx := this.1 x e hd hne
  by_cases he : e = d
  · subst he; exact absurd (hc x (hall x hx) hd) hne.symm
  · simpa [rmFinish, setPc, upd, he] using hx

/-- `add(x, some d)` writes the forward edge and its reverse edge under the mutex of
    `affect[d]`, which excludes a running `remove(d)`. -/
theorem EdgeInv.add (hinv : EdgeInv s) (hl : LockInv s) (hp : s.pc t = .addLockTx x d)
    (hpc : σ.pc = s.pc)
    (hdep : σ.dependency = upd s.dependency x (some d))
    (haf : σ.affect = upd s.affect d (if (s.affect d).contains x then s.affect d
                                      else x :: s.affect d))
    (hp' : rmOf p' = none) : EdgeInv (setPc σ t p') := by
  constructor
  · intro y e hd hne
    simp only [setPc, hdep, haf, upd] at hd ⊢
    split at hd
    · cases hd; rw [if_pos rfl]; exact mem_insertIfNew.2 (.inl ‹y = x›)
    · have := hinv.1 y e hd hne
      by_cases he : e = d
      · rw [if_pos he]; exact mem_insertIfNew.2 (.inr (he ▸ this))
      · rwa [if_neg he]
  · refine setPc_pc_cases (fun _ _ h => nomatch hp'.symm.trans h) fun u hut e seen hu => ?_
    rw [hpc] at hu
    -- `t` holds the mutex of `affect[d]`, so `u` is not inside `remove(d)`
    have hed : e ≠ d := fun h => hut (owner_unique hl.2 (h ▸ rmOf_holdsAff hu) (hp ▸ rfl))
    refine (hinv.2 u e seen hu).mono fun y hy _ => ?_
    simp only [setPc, hdep] at hy
    by_cases hyx : y = x
    · rw [hyx, upd_same] at hy; exact absurd (Option.some.inj hy).symm hed
    · rwa [upd_ne y hyx] at hy

theorem edgeInv_init (n : Nat) : EdgeInv (init n) :=
  ⟨fun _ _ h => (nomatch h), fun _ _ _ h => nomatch h⟩

theorem edgeInv_step {pick : Nat} {o : State × Ret}
    (hl : LockInv s) (hinv : EdgeInv s) (hp : s.pc t = p) (h : Step s t pick p o) :
    EdgeInv o.1 := by
  have hseen {d seen dep'} (hr : rmOf p = some (d, seen)) (hn : NoNewEdge s.dependency dep') :
      Clear dep' d seen := (hinv.2 t d seen (hp ▸ hr)).mono (hn · d)
  cases h
  case rmIterHandoff ho | rmIterClear ho =>
    exact ho ▸ hinv.rmCont rfl rfl .of_upd_none (.cons (by simp [upd]) (hseen rfl .of_upd_none))
  case rmIterStale hdep ho =>
    exact ho ▸ hinv.rmCont rfl rfl .rfl (.cons hdep (hseen rfl .rfl))
  case rmMin ho => exact ho ▸ hinv.rmCont rfl rfl .rfl (hseen rfl .rfl)
  case rmIterOffer =>
    exact hinv.move rfl rfl .of_upd_none (.cons (by simp [upd]) (hseen rfl .of_upd_none))
  case rmLockAffGo => exact hinv.move rfl rfl .rfl nofun
  case cmLockGo | addNoneLockGo => exact hinv.move rfl rfl .of_upd_none trivial
  case keyReadMin | keyReadEnd => exact hinv.move rfl rfl (.of_keyDep s _) trivial
  case addLockTxMin | addLockTxEnd => exact hinv.add hl hp rfl rfl rfl rfl
  all_goals exact hinv.move rfl rfl .rfl trivial

/-! ### Direct hand-off

Direct hand-off inside `remove(d)`: the carried `nx` is always `d + 1` and already processed,
hence at most one hand-off per `remove` call. -/

/-- The hand-off value carried by a thread inside `remove`. -/
def pcNx : Pc → Option Nat
  | .rmIter _ _ _ nx => nx
  | .rmMin _ _ _ nx _ => nx
  | _ => none

/-- The end of a `remove` iteration returns or carries on no hand-off value but the one it was
    given. -/
theorem rmContinue_carried {s' : State} {r : Ret} {i : Nat}
    (ho : rmContinue σ t d pop seen nx = (s', r))
    (hi : r = some (some i) ∨ pcNx (s'.pc t) = some i) : nx = some i := by
  obtain ⟨-, -, -, ⟨rfl, e⟩ | ⟨rfl, e⟩⟩ := rmContinue_spec ho <;> rw [e] at hi
  · exact hi.elim Option.some.inj nofun
  · exact hi.elim nofun id

/-- A carried hand-off value is `d + 1` and among the processed elements. -/
def NxVal (d : Nat) (seen : List Nat) : Option Nat → Prop
  | some i => i = d + 1 ∧ i ∈ seen
  | none => True

def NxOk : Pc → Prop
  | .rmIter d _ seen nx | .rmMin d _ seen nx _ => NxVal d seen nx
  | _ => True

/-- `NxOk` speaks of one thread's pc only, so a step has to re-establish it for the stepping
    thread alone. -/
def NxInv (s : State) : Prop := ∀ u, NxOk (s.pc u)

theorem NxVal.cons :
    ∀ {nx : Option Nat}, NxVal d seen nx → NxVal d (x :: seen) nx
  | some _, h => ⟨h.1, .tail _ h.2⟩
  | none, _ => trivial

theorem NxInv.move (hinv : NxInv s) (hpc : σ.pc = s.pc)
    (hp' : NxOk p') : NxInv (setPc σ t p') :=
  setPc_pc_cases hp' fun u _ => hpc ▸ hinv u

theorem NxInv.rmCont (hinv : NxInv s) (hpc : σ.pc = s.pc) (hv : NxVal d seen nx) :
    NxInv (rmContinue σ t d pop seen nx).1 :=
  rmContinue_inv (fun _ => hinv.move hpc trivial) (hinv.move hpc hv)

theorem nxInv_step {pick : Nat} {o : State × Ret} (hinv : NxInv s)
    (hp : s.pc t = p) (h : Step s t pick p o) : NxInv o.1 := by
  have ht : NxOk p := hp ▸ hinv t
  cases h
  case rmIterHandoff hh ho => exact ho ▸ hinv.rmCont rfl ⟨hh.2.1, .head _⟩
  case rmIterClear ho | rmIterStale ho => exact ho ▸ hinv.rmCont rfl (.cons ht)
  case rmMin ho => exact ho ▸ hinv.rmCont rfl ht
  case rmIterOffer => exact hinv.move rfl (NxVal.cons (x := pick) ht)
  all_goals exact hinv.move rfl trivial

end Grevm.TxDep
