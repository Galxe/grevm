/-
Reachable states of the `TxDependency` model, induction over them, and lock ownership.
-/
import Grevm.Lemmas.TxDepStep

namespace Grevm.TxDep

/-- Reachable from `init n` through `run` (any threads, any interleaving). -/
def Reachable (n : Nat) (s : State) : Prop := ∃ acts rets, run (init n) acts = some (s, rets)

theorem Reachable.induct {I : State → Prop} {n : Nat} (h0 : I (init n))
    (hstep : ∀ {s t pick o}, I s → Step s t pick (s.pc t) o → I o.1) {s : State} :
    Reachable n s → I s := by
  rintro ⟨acts, rets, h⟩
  generalize init n = s0 at h0 h
  induction acts generalizing s0 rets with
  | nil => cases h; exact h0
  | cons a as ih =>
      simp only [run] at h
      split at h
      · cases h
      · rename_i o hs
        split at h
        · cases h
        · rename_i hr; cases h; exact ih _ _ (hstep h0 (step_sound hs)) hr

/-- The pcs at which a thread holds the mutex of record `i`. -/
def HoldsDep : Pc → Nat → Prop
  | .rmMin _ _ _ _ tx, i => i = tx
  | .cmMin nx, i => i = nx
  | .keyRead x, i => i = x
  | .keyMin x, i => i = x
  | .addLockTx _ d, i => i = d
  | .addMin x d, i => i = d ∨ i = x
  | .addNoneMin x, i => i = x
  | _, _ => False

/-- The pcs at which a thread holds the mutex of the reverse-edge set `affect[j]`. -/
def HoldsAff : Pc → Nat → Prop
  | .rmIter d _ _ _, j => j = d
  | .rmMin d _ _ _ _, j => j = d
  | .addLockDep _ d, j => j = d
  | .addLockTx _ d, j => j = d
  | .addMin _ d, j => j = d
  | _, _ => False

def LockInv (s : State) : Prop :=
  (∀ i u, s.depLock i = some u ↔ HoldsDep (s.pc u) i) ∧
  (∀ j u, s.affLock j = some u ↔ HoldsAff (s.pc u) j)

/-- What a step of `t` may do to one mutex, `h`/`h'` saying that `t` is inside its critical
    section before/after: leave it alone, take it while free, or give it back. -/
def LockStep (t : Tid) (l l' : Option Tid) (h h' : Prop) : Prop :=
  (l' = l ∧ (h' ↔ h)) ∨ (l = none ∧ l' = some t ∧ h') ∨ (h ∧ l' = none ∧ ¬ h')

variable {s σ : State} {t : Tid} {p p' : Pc} {L L' : Nat → Option Tid} {x : Nat}

/-- The one argument behind `lock_owner`, for either family of mutexes. -/
theorem owner_step {H : Pc → Nat → Prop} {pc : Tid → Pc} (inv : ∀ i u, L i = some u ↔ H (pc u) i)
    (hd : ∀ i, LockStep t (L i) (L' i) (H (pc t) i) (H p' i)) (i : Nat) (u : Tid) :
    L' i = some u ↔ H (upd pc t p' u) i := by
  by_cases hu : u = t
  · subst hu
    rw [upd_same]
    rcases hd i with ⟨e, h⟩ | ⟨_, e, h⟩ | ⟨_, e, h⟩
    · rw [e, h]; exact inv i u
    all_goals simp [e, h]
  · have hne : some t ≠ some u := fun h => hu (Option.some.inj h).symm
    rw [upd_ne u hu, ← inv i u]
    rcases hd i with ⟨e, _⟩ | ⟨e0, e, _⟩ | ⟨h, e, _⟩
    · rw [e]
    · simp [e, e0, hne]
    · simp [e, (inv i t).2 h, hne]

theorem owner_unique {H : Pc → Nat → Prop} {pc : Tid → Pc} (inv : ∀ i u, L i = some u ↔ H (pc u) i)
    {i : Nat} {u : Tid} (ht : H (pc t) i) (hu : H (pc u) i) : t = u :=
  Option.some.inj (((inv i t).2 ht).symm.trans ((inv i u).2 hu))

theorem LockStep.frame {l : Option Tid} {h h' : Prop} (hh : h' ↔ h) :
    LockStep t l l h h' := .inl ⟨rfl, hh⟩

theorem LockStep.acquire {H H' : Nat → Prop}
    (hl : L x = none) (hh : ∀ i, H' i ↔ H i ∨ i = x) (i : Nat) :
    LockStep t (L i) (upd L x (some t) i) (H i) (H' i) := by
  by_cases hi : i = x
  · exact .inr (.inl ⟨hi ▸ hl, if_pos hi, (hh i).2 (.inr hi)⟩)
  · exact .inl ⟨if_neg hi, by simp [hh, hi]⟩

theorem LockStep.release {H : Nat → Prop}
    (hh : ∀ i, H i ↔ i = x) (i : Nat) : LockStep t (L i) (upd L x none i) (H i) False := by
  by_cases hi : i = x
  · exact .inr (.inr ⟨(hh i).2 hi, if_pos hi, id⟩)
  · exact .inl ⟨if_neg hi, by simp [hh, hi]⟩

theorem LockInv.move (hinv : LockInv s) (hp : s.pc t = p)
    (hpc : σ.pc = s.pc)
    (hd : ∀ i, LockStep t (s.depLock i) (σ.depLock i) (HoldsDep p i) (HoldsDep p' i))
    (ha : ∀ j, LockStep t (s.affLock j) (σ.affLock j) (HoldsAff p j) (HoldsAff p' j)) :
    LockInv (setPc σ t p') := by
  subst hp
  simp only [LockInv, setPc, hpc]
  exact ⟨owner_step hinv.1 hd, owner_step hinv.2 ha⟩

/-- The end of a `remove(d)` iteration keeps `affect[d]` locked or gives it back for good. -/
theorem LockInv.rmCont {d : Nat} {pop : Bool} {seen : List Nat} {nx : Option Nat}
    (hinv : LockInv s) (hp : s.pc t = p) (hpc : σ.pc = s.pc)
    (hd : ∀ i, LockStep t (s.depLock i) (σ.depLock i) (HoldsDep p i) False)
    (ha : σ.affLock = s.affLock) (hpa : ∀ j, HoldsAff p j ↔ j = d) :
    LockInv (rmContinue σ t d pop seen nx).1 :=
  rmContinue_inv (fun _ => hinv.move hp hpc hd (ha ▸ LockStep.release hpa))
    (hinv.move hp hpc hd fun j => ha ▸ .frame (hpa j).symm)

theorem lockInv_init (n : Nat) : LockInv (init n) := by
  constructor <;> intro i u <;> simp [init, HoldsDep, HoldsAff]

theorem lockInv_step {pick : Nat} {o : State × Ret}
    (hinv : LockInv s) (hp : s.pc t = p) (h : Step s t pick p o) : LockInv o.1 := by
  -- The `Iff`s asked for by `acquire`/`release`/`frame` hold by unfolding `HoldsDep`/`HoldsAff` at the
  -- two pcs: a pc before an acquisition holds nothing of that family (`False ∨ i = x`), and
  -- `HoldsDep (.addMin x d) i` is `i = d ∨ i = x` in this order, which is what `addLockTxMin` meets.
  cases h
  case rmIterHandoff ho | rmIterClear ho | rmIterStale ho =>
    exact ho ▸ hinv.rmCont hp rfl (fun _ => .frame .rfl) rfl fun _ => .rfl
  case rmMin ho => exact ho ▸ hinv.rmCont hp rfl (.release fun _ => .rfl) rfl fun _ => .rfl
  case rmLockAffGo hl _ | addLockAff hl =>
    exact hinv.move hp rfl (fun _ => .frame .rfl) (.acquire hl fun _ => .of_eq (false_or _).symm)
  case rmIterOffer hl _ _ _ | cmLockGo hl _ | keyLock hl | addLockDep hl | addNoneLockGo hl _ =>
    exact hinv.move hp rfl (.acquire hl fun _ => .of_eq (false_or _).symm) fun _ => .frame .rfl
  case addLockTxMin hl _ => exact hinv.move hp rfl (.acquire hl fun _ => .rfl) fun _ => .frame .rfl
  case cmMin | keyReadEnd | keyMin | addNoneMin =>
    exact hinv.move hp rfl (.release fun _ => .rfl) fun _ => .frame .rfl
  case addLockTxEnd =>
    exact hinv.move hp rfl (.release fun _ => .rfl) (.release fun _ => .rfl)
  case addMin =>
    -- both record mutexes are given back in one step
    refine hinv.move hp rfl (fun i => ?_) (.release fun _ => .rfl)
    simp only [LockStep, upd, HoldsDep]
    grind
  all_goals exact hinv.move hp rfl (fun _ => .frame .rfl) fun _ => .frame .rfl

end Grevm.TxDep
