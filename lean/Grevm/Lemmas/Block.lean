/- Basic facts about programs, views and the in-order semantics. -/
import Grevm.Model.Block

namespace Grevm.Block

theorem view_congr {W W' : TxId → List (Loc × Val)} {base : Loc → Val} {i : TxId}
    (h : ∀ j, j < i → W j = W' j) (l : Loc) : view W base i l = view W' base i l := by
  induction i with
  | zero => rfl
  | succ i ih =>
    simp only [view]
    rw [h i (Nat.lt_succ_self i)]
    split
    · rfl
    · exact ih (fun j hj => h j (Nat.lt_succ_of_lt hj))

theorem idealUpTo_stable {txs : TxId → Prog} {base : Loc → Val} {n j : Nat} (h : j < n) :
    idealUpTo txs base n j = ideal txs base j := by
  induction n with
  | zero => exact absurd h (Nat.not_lt_zero _)
  | succ n ih =>
    rcases Nat.lt_succ_iff_lt_or_eq.mp h with hlt | rfl
    · simp only [idealUpTo, if_neg (Nat.ne_of_lt hlt)]
      exact ih hlt
    · rfl

/-- The defining equation of the in-order semantics. -/
theorem ideal_eq (txs : TxId → Prog) (base : Loc → Val) (i : TxId) :
    ideal txs base i = exec (txs i) (view (idealWrites txs base) base i) := by
  simp only [ideal, idealUpTo, if_pos]
  exact congrArg _ (funext (view_congr fun j hj =>
    congrArg (·.out.writes) (idealUpTo_stable hj)))

theorem exec_consistent (p : Prog) (rd : Loc → Val) :
    Consistent p (exec p rd).reads (exec p rd).out ∧ ∀ x ∈ (exec p rd).reads, x.2 = rd x.1 := by
  induction p with
  | done | fail => exact ⟨rfl, List.forall_mem_nil _⟩
  | read l k ih =>
    exact ⟨⟨rfl, (ih (rd l)).1⟩, List.forall_mem_cons.mpr ⟨rfl, (ih (rd l)).2⟩⟩

/-- Determinism (`run_congr` in DESIGN.md, Appendix A.4): a consistent recorded run whose every read
    value is the value of the read function `rd` IS the run of the program against `rd`. -/
theorem consistent_exec {p : Prog} {rd : Loc → Val} {reads : List (Loc × Val)} {out : Out}
    (hc : Consistent p reads out) (hv : ∀ x ∈ reads, x.2 = rd x.1) :
    exec p rd = { reads := reads, out := out } := by
  induction p generalizing reads with
  | done | fail =>
    -- `hc` unfolds to an equation on `out` for the empty list, to `False` otherwise
    cases reads with
    | nil => cases hc; rfl
    | cons => cases hc
  | read l k ih =>
    cases reads with
    | nil => cases hc
    | cons x rest =>
      obtain ⟨l', v⟩ := x
      obtain ⟨rfl, hc'⟩ := hc
      obtain rfl : v = rd l' := hv (l', v) List.mem_cons_self
      simp [exec, ih _ hc' fun x hx => hv x (List.mem_cons_of_mem _ hx)]

end Grevm.Block
