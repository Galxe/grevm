/-
claimable_covered: a claimable transaction (on board, no blocker) is either still ahead of the
cursor or some thread is about to claim it / about to rewind the cursor to it.  At the end: the
four invariants of the model as one (`Inv`, `inv_reachable`).
-/
import Grevm.Lemmas.TxDepEdge

namespace Grevm.TxDep

/-- `Covers p x`: a thread at `p` has taken cursor value `x` and is about to examine it
    (`nextLock x`), or is about to `fetch_min(x)`. -/
def Covers : Pc → Nat → Prop
  | .nextLock i, x => x = i
  | .rmMin _ _ _ _ tx, x => x = tx
  | .cmMin nx, x => x = nx
  | .keyMin y, x => x = y
  | .addMin _ d, x => x = d
  | .addNoneMin y, x => x = y
  | _, _ => False

def ClaimInv (n : Nat) (s : State) : Prop :=
  s.n = n ∧ ∀ x, x < n → s.onboard x = true → s.dependency x = none →
    s.index ≤ x ∨ ∃ u, Covers (s.pc u) x

variable {n : Nat} {s σ : State} {t : Tid} {p p' : Pc}

/-- A step of `t` from `p` to `p'`.  Other threads keep covering what they cover, so what is left
    to show concerns `t` alone: a transaction claimable afterwards that, if it was claimable
    before, was ahead of the cursor or covered by `t`, still is. -/
theorem ClaimInv.move (hinv : ClaimInv n s) (hp : s.pc t = p) (hpc : σ.pc = s.pc) (hn : σ.n = s.n)
    (h : ∀ x, x < n → σ.onboard x = true → σ.dependency x = none →
      (s.onboard x = true → s.dependency x = none → s.index ≤ x ∨ Covers p x) →
      σ.index ≤ x ∨ Covers p' x) :
    ClaimInv n (setPc σ t p') := by
  refine ⟨hn.trans hinv.1, fun x hx hon hdep => ?_⟩
  by_cases ho : ∃ u, u ≠ t ∧ Covers (s.pc u) x
  · obtain ⟨u, hut, hu⟩ := ho
    exact .inr ⟨u, by rwa [setPc_pc_ne hut, hpc]⟩
  · refine (h x hx hon hdep fun hon0 hdep0 => ?_).imp_right fun h => ⟨t, by rwa [setPc_pc_same]⟩
    refine (hinv.2 x hx hon0 hdep0).imp_right fun ⟨u, hu⟩ => ?_
    by_cases hut : u = t
    · exact hp ▸ hut ▸ hu
    · exact absurd ⟨u, hut, hu⟩ ho

/-- `t`, which covered nothing but `w`, writes `onboard`/`dependency` at `w` only and leaves the
    cursor alone; if `w` is claimable afterwards, `t` covers it. -/
theorem ClaimInv.write {w : Nat} (hinv : ClaimInv n s) (hp : s.pc t = p) (hpc : σ.pc = s.pc)
    (hn : σ.n = s.n) (hidx : σ.index = s.index)
    (hon : ∀ x, x ≠ w → σ.onboard x = s.onboard x)
    (hdep : ∀ x, x ≠ w → σ.dependency x = s.dependency x)
    (hw : σ.onboard w = true → σ.dependency w = none → Covers p' w)
    (hcov : ∀ {x}, Covers p x → x = w) : ClaimInv n (setPc σ t p') :=
  hinv.move hp hpc hn fun x _ ho hd h => by
    by_cases hx : x = w
    · subst hx; exact .inr (hw ho hd)
    · exact hidx ▸ (h (hon x hx ▸ ho) (hdep x hx ▸ hd)).imp_right fun hc => absurd (hcov hc) hx

/-- `rmFinish` differs from a move to `idle` only in fields `ClaimInv` does not read. -/
theorem ClaimInv.rmCont {d : Nat} {pop : Bool} {seen : List Nat} {nx : Option Nat}
    (h : ∀ p', ClaimInv n (setPc σ t p')) : ClaimInv n (rmContinue σ t d pop seen nx).1 :=
  rmContinue_inv (fun _ => h .idle) (h _)

theorem min_le_of_le_or_eq {a c x : Nat} (h : a ≤ x ∨ x = c) : min a c ≤ x := by omega

theorem claimInv_init (n : Nat) : ClaimInv n (init n) := ⟨rfl, fun _ _ _ _ => .inl (Nat.zero_le _)⟩

theorem claimInv_step {pick : Nat} {o : State × Ret} (hinv : ClaimInv n s) (hp : s.pc t = p)
    (h : Step s t pick p o) : ClaimInv n o.1 := by
  cases h
  case nextAddEnd hi =>
    -- the cursor is at or past `n` already: nothing below `n` is ahead of it
    exact hinv.move hp rfl rfl fun x hx ho hd h =>
      absurd ((h ho hd).resolve_right id) (by have := hinv.1; omega)
  case nextAddGo =>
    exact hinv.move hp rfl rfl fun x _ ho hd h =>
      (Nat.lt_or_eq_of_le ((h ho hd).resolve_right id)).imp id Eq.symm
  case nextLockClaim =>
    exact hinv.write hp rfl rfl rfl upd_ne (fun _ _ => rfl) (fun h _ => by simp [upd] at h) id
  case nextLockMiss hno =>
    exact hinv.write hp rfl rfl rfl (fun _ _ => rfl) (fun _ _ => rfl) (fun a b => hno ⟨a, b⟩) id
  case rmIterHandoff ho =>
    exact ho ▸ .rmCont fun _ => hinv.write hp rfl rfl rfl upd_ne upd_ne
      (fun h _ => by simp [upd] at h) False.elim
  case rmIterClear hon ho =>
    exact ho ▸ .rmCont fun _ => hinv.write hp rfl rfl rfl (fun _ _ => rfl) upd_ne
      (fun h _ => absurd h hon) False.elim
  case rmIterStale ho =>
    exact ho ▸ .rmCont fun _ => hinv.move hp rfl rfl fun _ _ ho hd h =>
      (h ho hd).imp_right False.elim
  -- `fetch_min(c)` by the thread that covered `c`
  case rmMin ho =>
    exact ho ▸ .rmCont fun _ => hinv.move hp rfl rfl fun _ _ ho hd h =>
      .inl (min_le_of_le_or_eq (h ho hd))
  case cmMin | keyMin | addNoneMin | addMin =>
    exact hinv.move hp rfl rfl fun _ _ ho hd h => .inl (min_le_of_le_or_eq (h ho hd))
  case rmIterOffer | cmLockGo =>
    exact hinv.write hp rfl rfl rfl (fun _ _ => rfl) upd_ne (fun _ _ => rfl) False.elim
  case keyReadMin | addNoneLockGo =>
    exact hinv.write hp rfl rfl rfl upd_ne upd_ne (fun _ _ => rfl) False.elim
  case keyReadEnd hd =>
    exact hinv.write hp rfl rfl rfl upd_ne upd_ne
      (fun _ h => absurd (upd_same.symm.trans h) hd) False.elim
  case addLockTxMin | addLockTxEnd =>
    -- `x` and `d` are put on board: `x` with a blocker, so it is not claimable; `d` is covered by
    -- `addMin _ d` (`addLockTxMin`) or still has a blocker (`addLockTxEnd`)
    refine hinv.move hp rfl rfl fun x _ ho hd h => ?_
    simp only [upd, Covers] at ho hd h ⊢
    grind
  -- the rest writes nothing that `ClaimInv` reads and leaves a pc that covers nothing
  all_goals exact hinv.move hp rfl rfl fun _ _ ho hd h => (h ho hd).imp_right False.elim

structure Inv (n : Nat) (s : State) : Prop where
  lock : LockInv s
  edge : EdgeInv s
  claim : ClaimInv n s
  nx : NxInv s

theorem inv_reachable {n : Nat} {s : State} (h : Reachable n s) : Inv n s :=
  h.induct ⟨lockInv_init n, edgeInv_init n, claimInv_init n, fun _ => trivial⟩ fun hi hs =>
    ⟨lockInv_step hi.lock rfl hs, edgeInv_step hi.lock hi.edge rfl hs,
      claimInv_step hi.claim rfl hs, nxInv_step hi.nx rfl hs⟩

end Grevm.TxDep
