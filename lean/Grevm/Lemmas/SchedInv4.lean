/- Invariant group 4 of the pipeline model — the crux (I1'): for every transaction that is
   Unconfirmed, or in a validation scan without a conflict so far, either every recorded read (in a
   scan: every read checked so far) still resolves to the same, non-estimate version, or a rewind
   covering the transaction is published with a newer timestamp, or owed by a worker that has not yet
   fetched its timestamp, or fetched a newer one and not yet published it.  Here the mover is `a`, and
   `i` the transaction whose reads are in question. -/
import Grevm.Lemmas.SchedInv2

namespace Grevm.Sched

/-- The worker in this phase is committed to a validation rewind whose timestamp it has not
    fetched yet.  (`handoff` also ends in a rewind, but is known only at `recordResult`; no change
    of MV memory rests on it.)  Like `Fetched` and `Unconstrained`, on a concrete phase it reduces
    to `True` or `False`: hence `id`, `trivial`, `False.elim` at the call sites. -/
def Owes : Phase → Prop
  | .publishing run _ newLoc => run.blocked = true ∨ newLoc = true
  | .removing run _ newLoc => run.blocked = true ∨ newLoc = true
  | .errMark _ _ _ => True
  | .valMark _ => True
  | .tailPreTs _ _ => True
  | _ => False

/-- The worker has fetched the timestamp of its rewind and not yet published it. -/
def Fetched : Phase → Prop
  | .tailLts .. => True
  | _ => False

/-- I1' says nothing about a transaction whose worker is in this phase: neither outside nor in a so
    far successful scan. -/
def Unconstrained : Phase → Prop
  | .idle | .valScan _ _ _ false => False
  | _ => True

/-- A rewind covering `i` with a timestamp above `t`: published (Bumped), owed by a worker inside an
    earlier transaction (Pending), or fetched by one and not yet published (FutureBumped). -/
def Justified (s : State) (i t : Nat) : Prop :=
  (∃ k, k ≤ i ∧ t < s.lts k) ∨ (∃ j, j < i ∧ Owes (s.phase j)) ∨
  (∃ j k ts st, j < i ∧ s.phase j = .tailLts k ts st ∧ t < ts)

def AllOk (s : State) (i : TxId) (reads : List ReadRec) : Prop :=
  ∀ r ∈ reads, readOk s.mv i r = true

structure TxInv4 (s : State) (i : TxId) : Prop where
  unconf : s.phase i = .idle → s.status i = .unconfirmed → ∀ r, s.result i = some r →
    AllOk s i r.reads ∨ Justified s i (s.uts i)
  scan : ∀ ts done todo, s.phase i = .valScan ts done todo false →
    AllOk s i done ∨ Justified s i ts

def Inv4 (s : State) : Prop := ∀ i, TxInv4 s i

theorem inv4_init : Inv4 init :=
  fun _ => ⟨fun _ => nofun, fun _ _ _ => nofun⟩

/-- How the stepping transaction `a` may move without losing a rewind it owes. -/
def OwesPres (s s' : State) (a : TxId) : Prop :=
  (Owes (s.phase a) → Owes (s'.phase a) ∨ ∃ k st, s'.phase a = .tailLts k s.clock st) ∧
  (∀ k ts st, s.phase a = .tailLts k ts st →
    s'.phase a = .tailLts k ts st ∨ (ts ≤ s'.lts k ∧ (k = a ∨ k = a + 1)))

/-- A rewind started inside `a` targets `a` or `a + 1` (`TailTarget`): it covers every later `i`. -/
theorem tail_target_le {k a i : Nat} (hk : k = a ∨ k = a + 1) (hai : a < i) : k ≤ i :=
  hk.elim (· ▸ Nat.le_of_lt hai) (· ▸ hai)

/-- Pending and FutureBumped through the mover `a` advance as `OwesPres` says; a timestamp fetched
    now is above `t`. -/
theorem Justified.of_move {s s' : State} {a : TxId} {i t : Nat} (h : Justified s i t)
    (hop : a < i → OwesPres s s' a) (hph : ∀ j, j ≠ a → s'.phase j = s.phase j)
    (hlts : ∀ k, s.lts k ≤ s'.lts k) (ht : t < s.clock) : Justified s' i t := by
  rcases h with ⟨k, hk, hlt⟩ | ⟨j, hj, ho⟩ | ⟨j, k, ts, st, hj, hp, hlt⟩
  · exact Or.inl ⟨k, hk, Nat.lt_of_lt_of_le hlt (hlts k)⟩
  · by_cases hja : j = a
    · subst hja
      rcases (hop hj).1 ho with ho' | ⟨k, st, hp'⟩
      · exact Or.inr (Or.inl ⟨j, hj, ho'⟩)
      · exact Or.inr (Or.inr ⟨j, k, s.clock, st, hj, hp', ht⟩)
    · exact Or.inr (Or.inl ⟨j, hj, hph j hja ▸ ho⟩)
  · by_cases hja : j = a
    · subst hja
      rcases (hop hj).2 k ts st hp with hp' | ⟨hle, hk⟩
      · exact Or.inr (Or.inr ⟨j, k, ts, st, hj, hp', hlt⟩)
      · exact Or.inl ⟨k, tail_target_le hk hj, Nat.lt_of_lt_of_le hlt hle⟩
    · exact Or.inr (Or.inr ⟨j, k, ts, st, hj, (hph j hja).trans hp, hlt⟩)

theorem OwesPres.of_phases {s s' : State} {a : TxId} {p p' : Phase} (hp : s.phase a = p)
    (hp' : s'.phase a = p') (ho : Owes p → Owes p' ∨ ∃ k st, p' = .tailLts k s.clock st)
    (hnf : ¬ Fetched p) : OwesPres s s' a := by
  subst hp hp'
  exact ⟨ho, fun _ _ _ hc => absurd (by rw [hc]; trivial) hnf⟩

theorem TxInv4.of_unconstrained {s : State} {i : TxId} {p : Phase} (hp : s.phase i = p)
    (h : Unconstrained p) : TxInv4 s i := by
  subst hp
  exact ⟨fun hi => by rw [hi] at h; exact h.elim, fun _ _ _ hs => by rw [hs] at h; exact h.elim⟩

theorem TxInv4.of_tail_exit {s : State} {i : TxId} {st : Status} (hp : s.phase i = .idle)
    (hst : s.status i = st) (h : st = .executed ∨ st = .conflict) : TxInv4 s i :=
  ⟨fun _ hu => by rw [hst] at hu; rcases h with e | e <;> simp [e] at hu,
    fun _ _ _ hc => by cases hp.symm.trans hc⟩

theorem TxInv4.of_scan {s : State} {i : TxId} {ts : Nat} {done todo : List ReadRec} {c : Bool}
    (hp : s.phase i = .valScan ts done todo c) (h : c = false → AllOk s i done ∨ Justified s i ts) :
    TxInv4 s i where
  unconf hi := by cases hp.symm.trans hi
  scan _ _ _ hc := by cases hp.symm.trans hc; exact h rfl

/-- I1' after a move of `a`: `a` drops no rewind it owes, `lts` only grows, passing reads of the
    others still pass or are now justified, and `a`'s own conjunct.  `hop` is guarded for `tailSkip`,
    which does drop a rewind, but one beyond the block: nobody can have counted on it
    (`Inv1.active_lt`). -/
theorem Inv4.of_move {P : Params} {s s' : State} {a : TxId} (h : Inv4 s) (h1 : Inv1 P s)
    (m : Move s s' a) (hop : (∃ i, a < i ∧ i < P.n) → OwesPres s s' a)
    (hlts : ∀ k, s.lts k ≤ s'.lts k)
    (hok : ∀ i reads t, AllOk s i reads → AllOk s' i reads ∨ Justified s' i t)
    (hself : TxInv4 s' a) : Inv4 s' := by
  intro i
  by_cases hia : i = a
  · subst hia; exact hself
  · -- both conjuncts: reads of `i` that passed at a time `t` before now
    have key reads t (hst : s.status i ≠ .initial) (ht : t < s.clock) :
        AllOk s i reads ∨ Justified s i t → AllOk s' i reads ∨ Justified s' i t :=
      fun hor => hor.elim (hok i reads t) fun hj => .inr (hj.of_move
        (fun hai => hop ⟨i, hai, h1.active_lt i hst⟩) (fun _ hj => m.phase hj) hlts ht)
    refine ⟨fun hp hst r hr => ?_, fun ts done todo hp => ?_⟩
    · rw [m.phase hia] at hp; rw [m.status hia] at hst; rw [m.result hia] at hr; rw [m.uts hia]
      exact key _ _ (by simp [hst]) (h1.clk_uts i) ((h i).unconf hp hst r hr)
    · rw [m.phase hia] at hp
      have hck := h1.clk_phase i; have hst := h1.st_phase i; rw [hp] at hck hst
      exact key _ _ (by simp [show s.status i = .validating from hst]) hck.1
        ((h i).scan ts done todo hp)

/-- `es` fixes the fields a `Move` leaves alone; `m` adds that `status'`, `result'`, `uts'` change at
    `a` only. -/
theorem Inv4.quiet {P : Params} {s s' : State} {a : TxId} {p p' : Phase}
    {clock' uts' status' inc' result' hist'} (h : Inv4 s) (h1 : Inv1 P s)
    (es : s' = ⟨s.mv, clock', s.lts, uts', s.fin, s.lower, s.com, s.outcomes, status', inc', result',
      updF s.phase a p', hist'⟩) (m : Move s s' a) (hp : s.phase a = p)
    (ho : Owes p → Owes p' ∨ ∃ k st, p' = .tailLts k s.clock st) (hnf : ¬ Fetched p)
    (hself : TxInv4 s' a) : Inv4 s' := by
  subst es
  exact h.of_move h1 m (fun _ => .of_phases hp updF_same ho hnf)
    (fun _ => Nat.le_refl _) (fun _ _ _ hall => .inl hall) hself

theorem Inv4.rephase {P : Params} {s s' : State} {a : TxId} {p p' : Phase}
    {clock' uts' status' inc' result' hist'} (h : Inv4 s) (h1 : Inv1 P s)
    (es : s' = ⟨s.mv, clock', s.lts, uts', s.fin, s.lower, s.com, s.outcomes, status', inc', result',
      updF s.phase a p', hist'⟩) (m : Move s s' a) (hp : s.phase a = p)
    (ho : Owes p → Owes p') (hpp : ¬ Fetched p ∧ Unconstrained p') : Inv4 s' :=
  h.quiet h1 es m hp (fun o => .inl (ho o)) hpp.1
    (.of_unconstrained (by rw [es]; exact updF_same) hpp.2)

theorem readOk_setMv {mv : Loc → TxId → Option Entry} {l : Loc} {a : TxId} {e : Option Entry}
    {i : TxId} {r : ReadRec} (h : i ≤ a ∨ r.loc ≠ l) :
    readOk (setMv mv l a e) i r = readOk mv i r := by
  unfold readOk
  rw [resolve_setMv h]

/-- Replacing or removing an ESTIMATE entry of `a` at `l` cannot turn a passing read check of a
    later reader into a failing one: a read that passes does not resolve to an estimate. -/
theorem readOk_replace_estimate {mv : Loc → TxId → Option Entry} {l : Loc} {a : TxId}
    {eold : Entry} {enew : Option Entry} (hold : mv l a = some eold) (hest : eold.est = true)
    {i : TxId} {r : ReadRec} (hai : a < i) (hok : readOk mv i r = true) :
    readOk (setMv mv l a enew) i r = true := by
  by_cases hl : r.loc = l
  · subst hl
    cases hres : resolve mv i r.loc with
    | none => cases hold.symm.trans (resolve_none hres a hai)
    | some p =>
      obtain ⟨k, e⟩ := p
      obtain ⟨hk, hmk, hnone⟩ := resolve_some hres
      have hro := (readOk_some hres).mp hok
      -- the read resolves above `a`: not to `a`'s estimate, and `a`'s entry hides what is below
      have hgt : a < k := by
        rcases Nat.lt_trichotomy k a with hlt | rfl | hgt
        · cases hold.symm.trans (hnone a hlt hai)
        · cases hold.symm.trans hmk; cases hest.symm.trans hro.1
        · exact hgt
      refine (readOk_some (resolve_intro hk ?_ fun k' h1 h2 => ?_)).mpr hro
      · rw [setMv_ne_tx (Nat.ne_of_gt hgt)]; exact hmk
      · rw [setMv_ne_tx (Nat.ne_of_gt (Nat.lt_trans hgt h1))]; exact hnone k' h1 h2
  · rwa [readOk_setMv (.inr hl)]

/-- Readers up to `a` do not see the change; for a later one, by `hc`: `a` owes a rewind from now
    on, or the entry replaced was an estimate (no passing read resolved to it), or nothing was there
    and nothing is put there.  The arguments from `i` on are those of `hok` of `Inv4.of_move`. -/
theorem AllOk.setMv {s s' : State} {a : TxId} {l : Loc} {e : Option Entry} {p' : Phase}
    (hmv : s'.mv = setMv s.mv l a e) (hp' : s'.phase a = p')
    (hc : Owes p' ∨ (∃ eold, s.mv l a = some eold ∧ eold.est = true) ∨
      (s.mv l a = none ∧ e = none)) (i : TxId) (reads : List ReadRec) (t : Nat)
    (hall : AllOk s i reads) : AllOk s' i reads ∨ Justified s' i t := by
  rcases Nat.lt_or_ge a i with hai | hia
  · rcases hc with ho | ⟨eold, hold, hest⟩ | ⟨hnone, rfl⟩
    · exact Or.inr (Or.inr (Or.inl ⟨a, hai, hp' ▸ ho⟩))
    · exact Or.inl fun x hx => by rw [hmv]; exact readOk_replace_estimate hold hest hai (hall x hx)
    · exact Or.inl fun x hx => by rw [hmv, setMv_eq_self hnone]; exact hall x hx
  · exact Or.inl fun x hx => by rw [hmv, readOk_setMv (Or.inl hia)]; exact hall x hx

theorem Inv4.setMv {P : Params} {s : State} {a : TxId} {l : Loc} {e : Option Entry} {p p' : Phase}
    (h : Inv4 s) (h1 : Inv1 P s) (hp : s.phase a = p) (ho : Owes p → Owes p')
    (hc : Owes p' ∨ (∃ eold, s.mv l a = some eold ∧ eold.est = true) ∨ (s.mv l a = none ∧ e = none))
    (hpp : ¬ Fetched p ∧ Unconstrained p') :
    Inv4 { s with mv := setMv s.mv l a e, phase := updF s.phase a p' } :=
  have hp' : updF s.phase a p' a = p' := updF_same
  h.of_move h1 (by move_frame) (fun _ => .of_phases hp hp' (fun o => .inl (ho o)) hpp.1)
    (fun _ => Nat.le_refl _) (AllOk.setMv rfl hp' hc) (.of_unconstrained hp' hpp.2)

theorem nodup_mid {α : Type} {done todo : List α} {l : α} (h : (done ++ l :: todo).Nodup) :
    l ∉ done := by
  intro hc
  rw [List.nodup_append] at h
  exact h.2.2 l hc l List.mem_cons_self rfl

theorem inv4_step {P : Params} {s s' : State} (h1 : Inv1 P s) (h2 : Inv2 s) (h : Inv4 s)
    (hs : Step P s s') : Inv4 s' := by
  cases hs with
  | claimExec a | execReadMv a | execReadMiss a | execFetch a | execFinishOk a | execFinishErr a
  | endPublish a | recordBlocked a | recordRewind a | markErrNone a | markValNone a | endErrMark a
  | endValMark a | claimVal a | endScanConflict a | recordDirect a =>
    -- `recordDirect` is the direct-validation row of DESIGN.md, Appendix A.4: no rewind may be
    -- owed, and none is by its premises (`run.blocked = false`, `newLoc` is the literal `false`)
    have hp := ‹s.phase a = _›
    exact h.rephase h1 rfl (by move_frame) hp (by simp [Owes, *]) ⟨id, trivial⟩
  | tailTs a k st hp hk =>
    -- Pending becomes FutureBumped
    exact h.quiet h1 rfl (by move_frame) hp (fun _ => .inr ⟨_, _, rfl⟩) id
      (.of_unconstrained updF_same trivial)
  | finalize hi hp hst hg =>
    refine fun i => ⟨fun hpi hsti r hr => ?_, (h i).scan⟩
    by_cases hif : i = s.fin
    · subst hif; simp at hsti
    · exact (h i).unconf hpi ((updF_ne hif).symm.trans hsti) r hr
  | commit r hc hr => exact fun i => ⟨(h i).unconf, (h i).scan⟩
  | valTs a r hp hr =>
    exact h.quiet h1 rfl (by move_frame) hp False.elim id
      (.of_scan updF_same fun _ => .inl (List.forall_mem_nil _))
  | valCheck a ts done r todo conflict k hp hk =>
    have hck := h1.clk_phase a; rw [hp] at hck
    refine h.quiet h1 rfl (by move_frame) hp False.elim id (.of_scan updF_same fun hc => ?_)
    obtain ⟨rfl, hro⟩ : conflict = false ∧ readOk s.mv a r = true := by simpa using hc
    rcases (h a).scan ts done todo hp with hall | hj
    · exact Or.inl (List.forall_mem_cons.mpr ⟨hro, hall⟩)
    · -- the mover is `a` itself, and `Justified s a` reads only `lts` and the phases below `a`
      exact Or.inr (hj.of_move (fun hai => absurd hai (Nat.lt_irrefl _)) (fun _ => updF_ne)
        (fun _ => Nat.le_refl _) hck.1)
  | endScanOk a ts done hp =>
    have hsh := (h2 a).shape; simp only [Shape, hp] at hsh
    obtain ⟨r', hr', _, _, hrd⟩ := hsh
    have hck := h1.clk_phase a; rw [hp] at hck
    refine h.quiet h1 rfl (by move_frame) hp False.elim id
      ⟨fun _ _ r hr => ?_, fun _ _ _ hc => by simp at hc⟩
    cases hr'.symm.trans hr
    -- validations of `a` are serialised: `PhaseClock` has `uts a < ts`
    simp only [updF_same, Nat.max_eq_right (Nat.le_of_lt hck.2)]
    rcases (h a).scan ts done [] hp with hall | hj
    · exact Or.inl fun x hx => hall x (by simpa using (hrd x).mp hx)
    · -- as in `valCheck`
      exact Or.inr (hj.of_move (fun hai => absurd hai (Nat.lt_irrefl _)) (fun _ => updF_ne)
        (fun _ => Nat.le_refl _) hck.1)
  | tailSkip a k st hp hk =>
    have htt := h1.tail_target a; have hps := h1.st_phase a; rw [hp] at htt hps
    -- the rewind dropped targets `k` beyond the block: no `i` of the block lies beyond `a`
    exact h.of_move h1 (a := a) (by move_frame)
      (fun ⟨i, hi, hn⟩ => absurd (Nat.lt_of_le_of_lt (tail_target_le htt hi) hn) hk)
      (fun _ => Nat.le_refl _) (fun _ _ _ hall => Or.inl hall)
      (.of_tail_exit updF_same updF_same hps.2)
  | tailLts a k ts st hp =>
    have htt := h1.tail_target a; have hps := h1.st_phase a; rw [hp] at htt hps
    -- FutureBumped becomes Bumped
    refine h.of_move h1 (a := a) (by move_frame)
      (fun _ => ⟨fun ho => by simp [hp, Owes] at ho, fun k' ts' st' hc => ?_⟩) (fun k' => ?_)
      (fun _ _ _ hall => Or.inl hall) (.of_tail_exit updF_same updF_same hps.2)
    · cases hp.symm.trans hc
      exact Or.inr ⟨by simp [Nat.le_max_right], htt⟩
    · show s.lts k' ≤ updF s.lts k (max (s.lts k) ts) k'
      by_cases hk : k' = k
      · subst hk; rw [updF_same]; exact Nat.le_max_left _ _
      · rw [updF_ne hk]; exact Nat.le_refl _
  | publishOne a run l todo newLoc v hp hl hv =>
    have hsh := (h2 a).shape; simp only [Shape, hp] at hsh
    obtain ⟨done, _, hdisj, _, _, hold⟩ := hsh
    refine h.setMv h1 hp (Or.imp_right (by simp +contextual)) ?_ ⟨id, trivial⟩
    -- a location outside the previous write set sets `newLoc`; inside it, the entry is an estimate
    by_cases hmem : l ∈ oldLocs s a
    · cases hc : s.mv l a with
      | none => exact absurd hmem ((hold l (hdisj l hl)).2 hc)
      | some eold => exact .inr (.inl ⟨eold, rfl, ((hold l (hdisj l hl)).1 eold hc).2⟩)
    · exact .inl (.inr (by simp [hmem]))
  | removeOne a run l todo newLoc hp hl =>
    have hsh := (h2 a).shape; simp only [Shape, hp] at hsh
    obtain ⟨_, hold, hdisj⟩ := hsh
    refine h.setMv h1 hp id (.inr ?_) ⟨id, trivial⟩
    cases hc : s.mv l a with
    | none => exact .inr ⟨rfl, rfl⟩
    | some eold => exact .inl ⟨eold, rfl, (hold l (hdisj l hl) eold hc).2⟩
  | markErrSome a | markValSome a =>
    have hp := ‹s.phase a = _›
    exact h.setMv h1 hp (fun _ => trivial) (.inl trivial) ⟨id, trivial⟩

end Grevm.Sched
