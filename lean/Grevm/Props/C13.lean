/-
C13 — the delegated-balance reserve keeps an account's later transactions fundable.
Model: `Grevm/Model/Reserve.lean`.
-/
import Grevm.Lemmas.Reserve

namespace Grevm.Reserve

/-! ### The planner computes the suffix sums, whatever is asked in whatever order -/

/-- **planner_spec.** `required_after(txid, a)` as implemented (sender index, suffix array built
    from the right with saturating addition, binary search) is the saturating cost of `a`'s
    transactions strictly after `txid`. The model is a pure function of `(txs, txid, a)`: the answer
    cannot depend on which accounts or positions were asked before. -/
theorem planner_spec (txs : List Tx) (txid a : Nat) (h : txid < txs.length) :
    requiredAfter txs txid a = requiredSpec txs txid a := by
  rw [requiredAfter_eq_sufCost, senderIds, List.range_eq_range', dropWhile_filter_range' _ h,
    sufCost_filter_range', requiredSpec]

/-- Saturation only matters beyond `U256::MAX`. -/
theorem reqFrom_eq_min (txs : List Tx) (a k m : Nat) :
    reqFrom txs a k m = min (sumFrom txs a k m) MAXU := by
  induction m generalizing k with
  | zero => exact (Nat.zero_min _).symm
  | succ m ih =>
      simp only [reqFrom, sumFrom, ih (k + 1)]
      split
      · exact satAdd_min ..
      · rfl

/-- The form in which everything below uses the planner: the unsaturated cost of `a`'s
    transactions after `i`, capped. -/
theorem requiredAfter_eq_min (txs : List Tx) (i a : Nat) (h : i < txs.length) :
    requiredAfter txs i a = min (sumFrom txs a (i + 1) (txs.length - (i + 1))) MAXU := by
  rw [planner_spec txs i a h, requiredSpec, reqFrom_eq_min]

/-! ### Cost of `a`'s transactions from index `k` to the end of the block -/

theorem sumFrom_suffix_step (txs : List Tx) (a k : Nat) (h : k < txs.length) :
    sumFrom txs a k (txs.length - k) =
      (if (txs.getD k default).caller == a then (txs.getD k default).maxCost else 0)
        + sumFrom txs a (k + 1) (txs.length - (k + 1)) := by
  rw [show txs.length - k = (txs.length - (k + 1)) + 1 from
    (Nat.succ_pred_eq_of_pos (Nat.sub_pos_of_lt h)).symm, sumFrom_succ]

theorem sumFrom_suffix_antitone (txs : List Tx) (a : Nat) {i j : Nat} (h : i ≤ j) :
    sumFrom txs a j (txs.length - j) ≤ sumFrom txs a i (txs.length - i) := by
  induction h with
  | refl => exact Nat.le_refl _
  | @step j _ ih =>
    refine Nat.le_trans (?_ : sumFrom txs a (j + 1) (txs.length - (j + 1)) ≤ _) ih
    rcases Nat.lt_or_ge j txs.length with hj | hj
    · rw [sumFrom_suffix_step txs a j hj]; exact Nat.le_add_left ..
    · rw [Nat.sub_eq_zero_of_le (Nat.le_succ_of_le hj)]; exact Nat.zero_le _

/-- The current transaction is excluded, the next one included. -/
theorem requiredSpec_step (txs : List Tx) (a i : Nat) (h : i + 1 < txs.length) :
    sumFrom txs a (i + 1) (txs.length - (i + 1)) =
      (if (txs.getD (i + 1) default).caller == a then (txs.getD (i + 1) default).maxCost else 0)
        + sumFrom txs a (i + 2) (txs.length - (i + 2)) :=
  sumFrom_suffix_step txs a (i + 1) h

/-! ### The journal scan reconstructs the pre-debit balance -/

/-- One surviving journal entry moves the balance of `a` from `b` to `b'`. -/
inductive Moves (a : Nat) : Nat → Entry → Nat → Prop where
  | out (b dst v : Nat) (h : dst ≠ a) (hv : v ≤ b) : Moves a b (.transfer a dst v) (b - v)
  | inn (b src v : Nat) (h : src ≠ a) : Moves a b (.transfer src a v) (b + v)
  | self (b v : Nat) : Moves a b (.transfer a a v) b
  | unrelatedT (b src dst v : Nat) (h1 : src ≠ a) (h2 : dst ≠ a) : Moves a b (.transfer src dst v) b
  | destroyedSelf (b target : Nat) : Moves a b (.destroyed a target b) 0
  | destroyedTo (b addr had : Nat) (h : addr ≠ a) : Moves a b (.destroyed addr a had) (b + had)
  | unrelatedD (b addr target had : Nat) (h1 : addr ≠ a) (h2 : target ≠ a) :
      Moves a b (.destroyed addr target had) b
  | change (b b' : Nat) : Moves a b (.balanceChange a b) b'
  | unrelatedC (b addr old : Nat) (h : addr ≠ a) : Moves a b (.balanceChange addr old) b
  | other (b : Nat) : Moves a b .other b

/-- `b ≤ MAXU` is needed in the `out` and `destroyedSelf` cases: `satAdd` saturates when the
    restored balance would exceed `U256::MAX`. -/
theorem undo_moves {a b b1 : Nat} {e : Entry} (h : Moves a b e b1) (hb0 : b ≤ MAXU) :
    undo a b1 e = b := by
  cases h <;> simp [undo, satAdd_eq_min, satSub, Nat.min_eq_left, *]

/-- `Chain` without the bound on the balance BEFORE each entry: only there to state the
    counterexample below. -/
inductive Chain0 (a : Nat) : Nat → List Entry → Nat → Prop where
  | nil (b : Nat) : Chain0 a b [] b
  | cons (b b1 bn : Nat) (e : Entry) (es : List Entry) (h : Moves a b e b1) (hb : b1 ≤ MAXU)
      (t : Chain0 a b1 es bn) : Chain0 a b (e :: es) bn

/- `balance_before_exact` is false for `Chain0`, which bounds every balance but the first one: with
   `b = MAXU + 1` (not a U256) and one outgoing transfer of 1 the chain is well-formed (`b1 = MAXU`),
   but undoing saturates: `satAdd MAXU 1 = MAXU ≠ MAXU + 1`. -/
example :
    Chain0 0 (MAXU + 1) [.transfer 0 1 1] MAXU ∧
      balanceBefore ([] ++ [.transfer 0 1 1]) ([] : List Entry).length 0 MAXU ≠ MAXU + 1 := by
  refine ⟨?_, by decide⟩
  have hm : Moves 0 (MAXU + 1) (.transfer 0 1 1) (MAXU + 1 - 1) := Moves.out _ _ _ (by decide) (by decide)
  exact Chain0.cons _ _ _ _ _ hm (by decide) (Chain0.nil _)

/-- A journal suffix taking the balance of `a` from `b` to `bn`, never above `U256::MAX`: `hb0`
    bounds the balance BEFORE the entry as well (all balances are U256 values; without it
    `balance_before_exact` is false, see `Chain0` above). -/
inductive Chain (a : Nat) : Nat → List Entry → Nat → Prop where
  | nil (b : Nat) : Chain a b [] b
  | cons (b b1 bn : Nat) (e : Entry) (es : List Entry) (h : Moves a b e b1) (hb0 : b ≤ MAXU)
      (hb : b1 ≤ MAXU) (t : Chain a b1 es bn) : Chain a b (e :: es) bn

/-- **balance_before_exact.** Undoing the surviving journal from the final balance back to entry
    `idx` yields exactly the balance the account had just before that entry. -/
theorem balance_before_exact (a b bn : Nat) (pre es : List Entry) (h : Chain a b es bn) :
    balanceBefore (pre ++ es) pre.length a bn = b := by
  simp only [balanceBefore, List.drop_left]
  induction h with
  | nil b => rfl
  | cons b b1 bn e es hm hb0 _ _ ih =>
      rw [List.foldr_cons, ih]
      exact undo_moves hm hb0

/-! ### The rule, and what it guarantees -/

/-- **violates_iff.** The decision: some delegated debit leaves the account below
    `min(balance before its first debit, cost of its later transactions)`, the latter non-zero. -/
theorem violates_iff (txs : List Tx) (txid : Nat) (debits : List Debit) :
    violates txs txid debits = true ↔
      ∃ d ∈ debits, requiredAfter txs txid d.address ≠ 0 ∧
        d.final < min d.before (requiredAfter txs txid d.address) := by
  simp only [violates, List.any_eq_true, Bool.and_eq_true, bne_iff_ne, ne_eq, decide_eq_true_eq]

/-- No debit of a delegated account, or nothing to protect: the policy is inert. -/
theorem no_candidates_no_violation (txs : List Tx) (txid : Nat) : violates txs txid [] = false :=
  rfl

theorem no_future_cost_no_violation (txs : List Tx) (txid : Nat) (debits : List Debit)
    (h : ∀ d ∈ debits, requiredAfter txs txid d.address = 0) : violates txs txid debits = false :=
  Bool.eq_false_iff.2 fun hv =>
    let ⟨d, hd, h0, _⟩ := (violates_iff ..).1 hv
    h0 (h d hd)

/-- What one transaction does to the balance of account `a` (facts about revm, hypotheses here):
    `pre` before the transaction; if `a` sends it, it pays at most `ownCost` at top level; `debit`
    = `some (before, final)` when a delegated debit of `a` survived, where `before` is the balance
    before the first such debit; `finalNoDebit` the resulting balance otherwise; `reverted` the
    balance after the forced top-level revert. -/
structure TxEffect where
  ownCost : Nat
  pre : Nat
  debit : Option (Nat × Nat)
  finalNoDebit : Nat
  reverted : Nat

/-- Without delegated execution, a transaction lowers the balance of `a` by at most `a`'s own
    maximum cost; the first delegated debit happens after at most that; so does the forced revert. -/
def TxEffect.Sane (e : TxEffect) : Prop :=
  e.pre - e.ownCost ≤ e.finalNoDebit ∧ e.pre - e.ownCost ≤ e.reverted ∧
    ∀ bf fin, e.debit = some (bf, fin) → e.pre - e.ownCost ≤ bf

/-- Balance of `a` after the transaction under the policy with future cost `fc`. -/
def TxEffect.result (e : TxEffect) (fc : Nat) : Nat :=
  match e.debit with
  | none => e.finalNoDebit
  | some (bf, fin) => if fc != 0 && fin < min bf fc then e.reverted else fin

/-- **step_keeps_reserve.** If the account can pay its own transaction and everything after it,
    then after the transaction it can still pay everything after it. -/
theorem step_keeps_reserve (e : TxEffect) (fc : Nat) (hs : e.Sane) (h : e.ownCost + fc ≤ e.pre) :
    fc ≤ e.result fc := by
  -- `Sane` puts `pre - ownCost` below every balance here but the final one of an accepted debit
  have hfc : fc ≤ e.pre - e.ownCost := Nat.le_sub_of_add_le' h
  fun_cases TxEffect.result e fc
  · exact Nat.le_trans hfc hs.1
  · exact Nat.le_trans hfc hs.2.1
  · next bf fin hd hc =>
    -- `fc ≤ bf`, so the test that came out false is `fc ≠ 0 ∧ fin < fc`
    rw [Nat.min_eq_right (Nat.le_trans hfc (hs.2.2 bf fin hd))] at hc
    simp only [Bool.and_eq_true, bne_iff_ne, decide_eq_true_eq] at hc
    exact Nat.le_of_not_lt fun hlt => hc ⟨Nat.ne_zero_of_lt hlt, hlt⟩

/-- **fundable.** Block level: `bal i` is the balance of `a` before transaction `i`; every
    transaction's effect on `a` is sane and the policy is applied with the planner's answer. If `a`
    can pay the maximum cost of all its transactions at block start, it can pay each of them when
    its turn comes — delegated execution never makes it unfundable. -/
theorem fundable (txs : List Tx) (a : Nat) (bal : Nat → Nat) (eff : Nat → TxEffect)
    (hsane : ∀ i, i < txs.length → (eff i).Sane)
    (hpre : ∀ i, i < txs.length → (eff i).pre = bal i)
    (hown : ∀ i, i < txs.length → (eff i).ownCost =
      if (txs.getD i default).caller == a then (txs.getD i default).maxCost else 0)
    (hstep : ∀ i, i < txs.length → bal (i + 1) = (eff i).result (requiredAfter txs i a))
    (hstart : sumFrom txs a 0 txs.length ≤ bal 0) (hmax : sumFrom txs a 0 txs.length ≤ MAXU) :
    ∀ i, i < txs.length → (txs.getD i default).caller == a →
      (txs.getD i default).maxCost ≤ bal i := by
  -- invariant: before transaction `i`, the balance covers all of `a`'s transactions from `i` on
  have inv : ∀ i, i ≤ txs.length → sumFrom txs a i (txs.length - i) ≤ bal i := by
    intro i
    induction i with
    | zero => exact fun _ => hstart
    | succ i ih =>
        intro hi
        -- nothing saturates, since the whole block's cost is below `MAXU`
        rw [hstep i hi, requiredAfter_eq_min txs i a hi, Nat.min_eq_left
          (Nat.le_trans (sumFrom_suffix_antitone txs a (Nat.zero_le (i + 1))) hmax)]
        apply step_keeps_reserve _ _ (hsane i hi)
        rw [hown i hi, hpre i hi, ← sumFrom_suffix_step txs a i hi]
        exact ih (Nat.le_of_lt hi)
  intro i hi hc
  have := inv i (Nat.le_of_lt hi)
  rw [sumFrom_suffix_step txs a i hi, if_pos hc] at this
  exact Nat.le_trans (Nat.le_add_right ..) this

/-- Non-vacuity: block of five transactions, account 7 sends #1 (cost 30) and #4 (cost 50). -/
example :
    let txs : List Tx := [⟨1, some 10⟩, ⟨7, some 30⟩, ⟨2, none⟩, ⟨1, some 5⟩, ⟨7, some 50⟩]
    (requiredAfter txs 0 7, requiredAfter txs 1 7, requiredAfter txs 4 7, requiredAfter txs 0 2)
      = (80, 50, 0, MAXU) := by
  decide

/-- **required_after_is_history_free.** The planner's answer is a function of the block, the
    transaction index and the address alone (it is `requiredSpec`): nothing that was asked before
    can change it.  A cache of "settled" accounts that answers zero for them afterwards (seeded
    change C06e) is refuted by any block in which an account is asked about first at a late index
    and then at an early one: -/
theorem settled_cache_depends_on_query_order :
    let txs : List Tx := [⟨1, some 10⟩, ⟨7, some 30⟩, ⟨2, none⟩, ⟨1, some 5⟩]
    requiredAfter txs 3 7 = 0 ∧ requiredAfter txs 0 7 = 30 := by
  decide

/-- **rebased_index_changes_the_reserve** (the shape of seeded change C13e).  A sequential replay
    that starts at committed boundary `start` must keep asking with the GLOBAL index: asked with
    the position inside the suffix, account 7's own transaction at index 1 — already executed — is
    charged again as a later cost. -/
theorem rebased_index_changes_the_reserve :
    let txs : List Tx := [⟨1, some 10⟩, ⟨7, some 30⟩, ⟨2, some 1⟩, ⟨1, some 5⟩]
    let start := 2
    let txid := 2
    requiredAfter txs txid 7 = 0 ∧ requiredAfter txs (txid - start) 7 = 30 := by
  decide

/-! ### The reserve only shrinks as the block advances -/

/-- **required_after_antitone.** What an account must keep for its later transactions never grows
    as the block advances: asked at a later index the planner demands at most what it demanded at
    an earlier one. -/
theorem required_after_antitone (txs : List Tx) (a i j : Nat) (hij : i ≤ j) (hj : j < txs.length) :
    requiredAfter txs j a ≤ requiredAfter txs i a := by
  rw [requiredAfter_eq_min txs j a hj, requiredAfter_eq_min txs i a (Nat.lt_of_le_of_lt hij hj)]
  exact Nat.le_min_of_le_of_le
    (Nat.le_trans (Nat.min_le_left ..) (sumFrom_suffix_antitone txs a (Nat.add_le_add_right hij 1)))
    (Nat.min_le_right ..)

theorem sumFrom_eq_zero (txs : List Tx) (a k m : Nat)
    (h : ∀ x, k ≤ x → x < k + m → (txs.getD x default).caller ≠ a) : sumFrom txs a k m = 0 := by
  induction m generalizing k with
  | zero => rfl
  | succ m ih =>
      rw [sumFrom_succ, ih (k + 1) fun x h1 h2 => h x (Nat.le_of_succ_le h1) (by omega),
        if_neg (mt eq_of_beq (h k (Nat.le_refl k) (by omega)))]

/-- **no_later_transaction_no_reserve.** An account that sends no later transaction of the block
    is never protected: only accounts with transactions still to come can cause a forced revert. -/
theorem required_after_no_later_tx (txs : List Tx) (a i : Nat) (hi : i < txs.length)
    (h : ∀ x, i < x → x < txs.length → (txs.getD x default).caller ≠ a) :
    requiredAfter txs i a = 0 := by
  rw [requiredAfter_eq_min txs i a hi,
    sumFrom_eq_zero txs a (i + 1) _ fun x h1 h2 => h x h1 (Nat.add_sub_cancel' hi ▸ h2)]
  exact Nat.zero_min _

/-- **last_transaction_unconstrained.** Nothing is reserved behind the last transaction of the
    block, so the policy cannot revert it. -/
theorem required_after_last (txs : List Tx) (a i : Nat) (h : i + 1 = txs.length) :
    requiredAfter txs i a = 0 :=
  required_after_no_later_tx txs a i (by omega) fun x h1 h2 => by omega

theorem last_transaction_never_violates (txs : List Tx) (i : Nat) (h : i + 1 = txs.length)
    (debits : List Debit) : violates txs i debits = false :=
  no_future_cost_no_violation txs i debits (fun d _ => required_after_last txs d.address i h)

/-- **debit_ok_stays_ok.** A smaller demand cannot turn an accepted debit into a violation: a
    debit (`before`, `final`) that respects the reserve when judged at an earlier index respects
    it when judged at any later one. -/
theorem debit_ok_stays_ok (txs : List Tx) (a i j : Nat) (hij : i ≤ j) (hj : j < txs.length)
    (before final : Nat) (h : ¬ final < min before (requiredAfter txs i a)) :
    ¬ final < min before (requiredAfter txs j a) := by
  rw [Nat.lt_min] at h ⊢
  exact fun ⟨hb, hr⟩ =>
    h ⟨hb, Nat.lt_of_lt_of_le hr (required_after_antitone txs a i j hij hj)⟩

/-- Non-vacuity of `required_after_antitone` / `required_after_no_later_tx`. -/
example :
    let txs : List Tx := [⟨1, some 10⟩, ⟨7, some 30⟩, ⟨2, none⟩, ⟨1, some 5⟩, ⟨7, some 50⟩]
    requiredAfter txs 3 7 ≤ requiredAfter txs 0 7 ∧ requiredAfter txs 3 7 = 50 ∧
      requiredAfter txs 3 1 = 0 := by
  decide

/-! ### The scan reports each delegated account once -/

def CandOk (delegated : Nat → Bool) (n : Nat) (acc : List (Nat × Nat)) : Prop :=
  (∀ p ∈ acc, delegated p.1 = true ∧ p.2 < n) ∧ (acc.map (·.1)).Nodup

theorem CandOk.mono {delegated : Nat → Bool} {n m : Nat} {acc : List (Nat × Nat)}
    (h : CandOk delegated n acc) (hnm : n ≤ m) : CandOk delegated m acc :=
  ⟨fun p hp => ⟨(h.1 p hp).1, Nat.lt_of_lt_of_le (h.1 p hp).2 hnm⟩, h.2⟩

theorem CandOk.snoc {delegated : Nat → Bool} {i s : Nat} {acc : List (Nat × Nat)}
    (h : CandOk delegated i acc) (hd : delegated s = true) (hs : ∀ p ∈ acc, p.1 ≠ s) :
    CandOk delegated (i + 1) (acc ++ [(s, i)]) := by
  refine ⟨fun p hp => ?_, ?_⟩
  · rcases List.mem_append.1 hp with hp | hp
    · exact (h.mono (Nat.le_succ i)).1 p hp
    · cases List.mem_singleton.1 hp; exact ⟨hd, Nat.lt_succ_self i⟩
  · rw [List.map_append, List.nodup_append]
    refine ⟨h.2, by simp, fun a ha b hb => ?_⟩
    cases List.mem_singleton.1 hb
    obtain ⟨p, hp, rfl⟩ := List.mem_map.1 ha
    exact hs p hp

theorem go_candOk (root : Root) (delegated : Nat → Bool) (es : List Entry) (i : Nat)
    (pending : Bool) (acc : List (Nat × Nat)) (h : CandOk delegated i acc) :
    CandOk delegated (i + es.length) (firstDebits.go root delegated es i pending acc) := by
  -- one case per branch of `go`
  fun_induction firstDebits.go root delegated es i pending acc
  case case1 => exact h
  all_goals rw [List.length_cons, Nat.add_comm _ 1, ← Nat.add_assoc]
  -- the root transfer is skipped
  · next ih => exact ih (h.mono (Nat.le_succ _))
  -- first debit of a delegated account: the one entry that is added
  · next hc ih =>
    simp only [Bool.and_eq_true, Bool.not_eq_true', List.any_eq_false, beq_iff_eq] at hc
    exact ih (h.snoc hc.1 hc.2)
  -- not delegated, or seen before
  · next ih => exact ih (h.mono (Nat.le_succ _))
  -- not a debit
  · next ih => exact ih (h.mono (Nat.le_succ _))

/-- **one_candidate_per_delegated_account.** The scan reports only delegated accounts, each at
    most once, and each with the index of an entry of the scanned journal. -/
theorem firstDebits_sound (entries : List Entry) (root : Root) (delegated : Nat → Bool) :
    (∀ p ∈ firstDebits entries root delegated, delegated p.1 = true ∧ p.2 < entries.length) ∧
      ((firstDebits entries root delegated).map (·.1)).Nodup :=
  Nat.zero_add entries.length ▸
    go_candOk root delegated entries 0 (root.value != 0) [] ⟨List.forall_mem_nil _, List.nodup_nil⟩

/-- The candidates handed to `has_reserve_violation`: one per delegated account, carrying that
    account's final balance. -/
theorem delegatedDebits_sound (entries : List Entry) (root : Root) (delegated : Nat → Bool)
    (finalBal : Nat → Nat) :
    (∀ d ∈ delegatedDebits entries root delegated finalBal,
        delegated d.address = true ∧ d.final = finalBal d.address) ∧
      ((delegatedDebits entries root delegated finalBal).map (·.address)).Nodup := by
  have h := firstDebits_sound entries root delegated
  unfold delegatedDebits
  -- the address of the candidate built from `p` is `p.1`
  refine ⟨fun d hd => ?_, by rw [List.map_map]; exact h.2⟩
  obtain ⟨p, hp, rfl⟩ := List.mem_map.1 hd
  exact ⟨(h.1 p hp).1, rfl⟩

/-- Non-vacuity: account 5 (delegated) is debited twice and reported once, at its first debit;
    account 6 (not delegated) is not reported; the root transfer is skipped. -/
example :
    firstDebits [.transfer 1 5 7, .transfer 5 2 3, .transfer 6 2 1, .transfer 5 2 1]
      ⟨1, 7, some 5⟩ (· == 5) = [(5, 1)] := by
  decide

end Grevm.Reserve
