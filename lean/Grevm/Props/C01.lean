/-
C01 — parallel execution equals in-order execution (the static core).
Model: `Grevm/Model/Block.lean`.  The dynamic part — that every finalized result has validated
reads — is the pipeline theorem in `Props/C02.lean`.
-/
import Grevm.Lemmas.Block

namespace Grevm.Block

/-- **validated_reads_imply_in_order.** Let `res i` be ANY recorded runs of the transactions (from
    whatever incarnation, worker and schedule they came) such that each is a possible run of its
    program and every value it read is the value that the final write sets of the preceding
    transactions (or the base state) hold for that location.  Then each `res i` is exactly the
    in-order run: same reads, same writes, same output or error. -/
theorem validated_reads_imply_in_order (txs : TxId → Prog) (base : Loc → Val) (res : TxId → Run)
    (n : Nat)
    (hcons : ∀ i, i < n → Consistent (txs i) (res i).reads (res i).out)
    (hreads : ∀ i, i < n → ∀ x ∈ (res i).reads,
      x.2 = view (fun j => (res j).out.writes) base i x.1) :
    ∀ i, i < n → res i = ideal txs base i := by
  intro i
  induction i using Nat.strongRecOn with
  | _ i ih =>
    intro hi
    have hW : ∀ j, j < i → (res j).out.writes = idealWrites txs base j :=
      fun j hj => congrArg (·.out.writes) (ih j hj (Nat.lt_trans hj hi))
    rw [ideal_eq]
    exact (consistent_exec (hcons i hi) fun x hx =>
      (hreads i hi x hx).trans (view_congr hW _)).symm

/-- The outcome list and the final state of the block are then the in-order ones. -/
theorem outcomes_in_order (txs : TxId → Prog) (base : Loc → Val) (res : TxId → Run) (n : Nat)
    (hcons : ∀ i, i < n → Consistent (txs i) (res i).reads (res i).out)
    (hreads : ∀ i, i < n → ∀ x ∈ (res i).reads,
      x.2 = view (fun j => (res j).out.writes) base i x.1) :
    (List.range n).map (fun i => (res i).out) = (List.range n).map (fun i => (ideal txs base i).out) ∧
    ∀ l, view (fun j => (res j).out.writes) base n l = view (idealWrites txs base) base n l := by
  have h := validated_reads_imply_in_order txs base res n hcons hreads
  exact ⟨List.map_congr_left fun i hi => congrArg Run.out (h i (List.mem_range.mp hi)),
    view_congr fun j hj => congrArg (·.out.writes) (h j hj)⟩

/-- Non-vacuity: tx 0 writes x := 5; tx 1 reads x and writes y := x + 1.  A recorded run of tx 1
    that read the stale base value 0 does NOT satisfy the hypothesis; the one that read 5 does and
    equals the in-order run. -/
example :
    let txs : TxId → Prog := fun i =>
      if i = 0 then .done [(0, 5)] 0 else .read 0 (fun v => .done [(1, v + 1)] v)
    (ideal txs (fun _ => 0) 1) = { reads := [(0, 5)], out := .ok [(1, 6)] 5 } := by
  decide

/-- **stale_source_read_is_not_in_order** (necessity of the read hypothesis; the shape of seeded
    change C01d).  tx 0 sets x; tx 1 writes y := 7 only while x is unset; tx 2 stores y + 1.  A run of
    tx 2 that read y = 7 — the write of a DISCARDED attempt of tx 1, which ran before tx 0 — is a
    possible run of its program, but it is not the in-order run, and the value it read is not the
    view of the final write sets: a validation that lets it pass (because the entry it read from has
    since been removed and no earlier writer is left) commits z = 8 instead of z = 1. -/
theorem stale_source_read_is_not_in_order :
    let txs : TxId → Prog := fun i =>
      if i = 0 then .done [(0, 1)] 0
      else if i = 1 then .read 0 (fun x => if x = 0 then .done [(1, 7)] 0 else .done [] 0)
      else .read 1 (fun y => .done [(2, y + 1)] 0)
    let stale : Run := { reads := [(1, 7)], out := .ok [(2, 8)] 0 }
    Consistent (txs 2) stale.reads stale.out ∧
    stale ≠ ideal txs (fun _ => 0) 2 ∧
    (ideal txs (fun _ => 0) 2) = { reads := [(1, 0)], out := .ok [(2, 1)] 0 } ∧
    view (idealWrites txs (fun _ => 0)) (fun _ => 0) 2 1 = 0 := by
  refine ⟨?_, ?_, ?_, ?_⟩
  · exact ⟨rfl, rfl⟩
  · decide
  · decide
  · decide

end Grevm.Block
