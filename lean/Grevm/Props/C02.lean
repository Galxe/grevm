/-
C02 — commits are in order, exactly once, final, and equal the in-order effect.
Model: `Grevm/Model/Sched.lean` (the speculative pipeline at the granularity of single shared-memory
accesses, any number of workers, any interleaving).  Invariants: `Grevm/Lemmas/SchedInv1..5`.
-/
import Grevm.Lemmas.SchedInv5

namespace Grevm.Sched

open Grevm.Block

/-- **finalized_exact.** In every reachable state of every block, every finalized transaction
    holds exactly its in-order run: the same values read, the same writes, the same output or error —
    a result computed from state that a preceding transaction changed afterwards is never final. -/
theorem finalized_exact (P : Params) (s : State) (h : Reachable P s) (j : TxId) (hj : j < s.fin) :
    ∃ r, s.result j = some r ∧ toRun r = ideal P.txs P.base j := by
  obtain ⟨_, _, _, _, i5⟩ := inv_reachable h
  exact i5.exact j hj

/-- **commit_prefix.** At every instant the committed outcomes are exactly the in-order outcomes of
    transactions `0 .. com-1`: commits are contiguous, in block order, one outcome per commit. -/
theorem commit_prefix (P : Params) (s : State) (h : Reachable P s) :
    s.outcomes = (List.range s.com).map (fun j => (ideal P.txs P.base j).out) ∧
    s.outcomes.length = s.com ∧ s.com ≤ s.fin ∧ s.fin ≤ P.n := by
  obtain ⟨i1, _, _, _, i5⟩ := inv_reachable h
  exact ⟨i5.outcomes, i1.com_le.2, i1.com_le.1, i1.fin_le⟩

/-- **commit_once.** Every step either leaves the committed boundary and outcomes alone, or is a
    commit: it takes the result of transaction `com` (which is finalized), appends exactly its
    outcome and advances the boundary by one. -/
theorem commit_once (P : Params) (s s' : State) (a : Act) (h : step P s a = some s') :
    (s'.com = s.com ∧ s'.outcomes = s.outcomes) ∨
    (s'.com = s.com + 1 ∧ s.com < s.fin ∧
      ∃ r, s.result s.com = some r ∧ s'.outcomes = s.outcomes ++ [r.out]) :=
  (step_sound h).move_cases (move := fun _ _ m _ => .inl ⟨m.com, m.outcomes⟩)
    (finalize := fun _ _ _ _ => .inl ⟨rfl, rfl⟩) (commit := fun r hc hr => .inr ⟨rfl, hc, r, hr, rfl⟩)

/-- **finality_is_final.** No step ever changes the result or status of a finalized transaction,
    and the finalized prefix never shrinks: a commit never needs to be revised. -/
theorem finality_is_final (P : Params) (s s' : State) (a : Act) (h : Reachable P s)
    (hstep : step P s a = some s') (j : TxId) (hj : j < s.fin) :
    s'.result j = s.result j ∧ s'.status j = .finality ∧ j < s'.fin := by
  obtain ⟨i1, _⟩ := inv_reachable h
  obtain ⟨h1, h2, h3⟩ := step_frozen i1 (step_sound hstep) j hj
  exact ⟨h1, by rw [h2]; exact (i1.fin_status j).mpr hj, h3⟩

/-- **stale_validation_never_final** (also the third clause of C15). If a rewind covering
    transaction `i` (target `k ≤ i`) carries a timestamp newer than `i`'s latest successful
    validation, `i` cannot be finalized, whatever the cursors say. -/
theorem stale_validation_never_final (P : Params) (s : State) (h : Reachable P s)
    (k : Nat) (hk : k ≤ s.fin) (hstale : s.uts s.fin < s.lts k) : step P s .finalize = none := by
  obtain ⟨i1, _⟩ := inv_reachable h
  have hg : ¬ s.uts s.fin > max s.lower (s.lts s.fin) := fun hg =>
    Nat.lt_asymm hstale (i1.guard_lt hk hg)
  -- `step.eq_def`: for `simp only [step]` Lean first generates an equation lemma for every branch
  simp only [step.eq_def, if_neg hg]
  split
  · split <;> rfl
  · rfl

/-- **execute_ok.** When the whole block has been committed, the outcome list is the in-order
    outcome list — for every block, base state, number of workers and interleaving. -/
theorem execute_ok (P : Params) (s : State) (h : Reachable P s) (hdone : s.com = P.n) :
    s.outcomes = (List.range P.n).map (fun j => (ideal P.txs P.base j).out) := by
  rw [← hdone]; exact (commit_prefix P s h).1

/-- The timestamp of a validation rewind is published before the status change becomes visible
    and after every MV-memory change of the same worker (the mechanism the proof relies on,
    stated as a reachable-state fact): a worker that still owes a rewind is never idle. -/
theorem owes_not_idle (s : State) (j : TxId) (h : Owes (s.phase j)) : s.phase j ≠ .idle := by
  intro hc; rw [hc] at h; exact h

/-! ### Non-vacuity: a conflicting 2-transaction block goes through stale read, failed validation,
    estimate marking, rewind, re-execution and finality, and both outcomes are the in-order ones. -/

def demoParams : Params :=
  { n := 2,
    txs := fun i => if i = 0 then .done [(0, 5)] 0 else .read 0 (fun v => .done [(1, v + 1)] v),
    base := fun _ => 0 }

def demoSchedule : List Act :=
  [ -- tx 1 runs first on the stale base value (MV miss, then committed-cache fetch), publishes,
    -- rewinds
    .claimExec 1, .execRead 1, .execFetch 1, .execFinish 1, .publishOne 1 1, .endPublish 1,
    .recordResult 1 false,
    .tailTs 1, .tailLts 1,
    -- tx 0 executes and publishes x := 5, rewinds
    .claimExec 0, .execFinish 0, .publishOne 0 0, .endPublish 0, .recordResult 0 false,
    .tailTs 0, .tailLts 0,
    -- tx 0 validates and is finalized
    .claimVal 0, .valTs 0, .endScan 0, .finalize,
    -- tx 1's validation now fails: marks its write as estimate, rewinds, re-executes
    .claimVal 1, .valTs 1, .valCheck 1 0, .endScan 1, .markOne 1 1, .endValMark 1, .tailTs 1,
    .claimExec 1, .execRead 1, .execFinish 1, .publishOne 1 1, .endPublish 1, .recordResult 1 false,
    .valTs 1, .valCheck 1 0, .endScan 1, .finalize, .commit, .commit ]

example : (run demoParams init demoSchedule).map (fun s => (s.fin, s.com, s.outcomes)) =
    some (2, 2, [.ok [(0, 5)] 0, .ok [(1, 6)] 5]) := by decide

/-! ### Non-vacuity of the non-atomic storage read: tx 1 misses in MV memory, tx 0 then executes,
    is finalized and COMMITTED, and only then tx 1 reads the committed cache: it records value 5
    with version `Storage` (not the block-start value 0).  Its validation fails (the location now
    resolves to tx 0's entry), it is re-executed, and the outcomes are the in-order ones. -/

def demoFetchPrefix : List Act :=
  [ .claimExec 1, .execRead 1,
    .claimExec 0, .execFinish 0, .publishOne 0 0, .endPublish 0, .recordResult 0 false,
    .tailTs 0, .tailLts 0, .claimVal 0, .valTs 0, .endScan 0, .finalize, .commit,
    .execFetch 1 ]

def demoFetchSuffix : List Act :=
  [ .execFinish 1, .publishOne 1 1, .endPublish 1, .recordResult 1 false, .tailTs 1, .tailLts 1,
    .claimVal 1, .valTs 1, .valCheck 1 0, .endScan 1, .markOne 1 1, .endValMark 1, .tailTs 1,
    .claimExec 1, .execRead 1, .execFinish 1, .publishOne 1 1, .endPublish 1, .recordResult 1 false,
    .valTs 1, .valCheck 1 0, .endScan 1, .finalize, .commit ]

example : (run demoParams init demoFetchPrefix).map (fun s =>
      match s.phase 1 with
      | .reading _ (r :: _) _ => some (r.loc, r.ver, r.val, s.com)
      | _ => none) = some (some (0, none, 5, 1)) := by decide

example : (run demoParams init (demoFetchPrefix ++ demoFetchSuffix)).map
      (fun s => (s.fin, s.com, s.outcomes)) =
    some (2, 2, [.ok [(0, 5)] 0, .ok [(1, 6)] 5]) := by decide

/-- **readOk_iff.** The per-read check of `validate`, stated outright: a recorded read passes iff
    the location still resolves to the very entry it was read from (same writer, same incarnation,
    not flagged as an estimate), or it was read from storage and there is still no preceding
    writer. -/
theorem readOk_iff (mv : Loc → TxId → Option Entry) (i : TxId) (r : ReadRec) :
    readOk mv i r = true ↔
      (∃ k e, resolve mv i r.loc = some (k, e) ∧ e.est = false ∧ r.ver = some (k, e.inc)) ∨
      (resolve mv i r.loc = none ∧ r.ver = none) := by
  cases h : resolve mv i r.loc with
  | none => simp [readOk_none h]
  | some p =>
    obtain ⟨k, e⟩ := p
    rw [readOk_some h]
    constructor
    · exact fun h' => .inl ⟨k, e, rfl, h'⟩
    · rintro (⟨_, _, ⟨⟩, h'⟩ | ⟨⟨⟩, _⟩); exact h'

/-- **vanished_source_is_conflict** (the case seeded change C01d removes).  A read recorded from a
    multi-version entry whose location no longer resolves to ANY preceding writer — the writer was
    re-executed, stopped writing it, and its stale entry was removed — fails validation. -/
theorem vanished_source_is_conflict (mv : Loc → TxId → Option Entry) (i : TxId) (r : ReadRec)
    (hgone : resolve mv i r.loc = none) (hmv : r.ver ≠ none) : readOk mv i r = false :=
  Bool.eq_false_iff.mpr (mt (readOk_none hgone).mp hmv)

/-! ### Non-vacuity of `vanished_source_is_conflict`: tx 0 sets x; tx 1 writes y := 7 only while x is
    unset; tx 2 stores y + 1.  tx 1 runs first (x unset, publishes y), tx 2 reads y from tx 1's
    entry, tx 0 publishes x, tx 1 fails validation, is re-executed WITHOUT writing y and its stale
    entry is removed.  When tx 2 is validated its read source is gone and no earlier writer is
    left: the premises of the theorem hold in this reachable state, the read is a conflict, tx 2
    is re-executed, and the outcomes are the in-order ones (z = 1, not 8). -/

def vanishParams : Params :=
  { n := 3,
    txs := fun i =>
      if i = 0 then .done [(0, 1)] 0
      else if i = 1 then .read 0 (fun x => if x = 0 then .done [(1, 7)] 0 else .done [] 0)
      else .read 1 (fun y => .done [(2, y + 1)] 0),
    base := fun _ => 0 }

def vanishPrefix : List Act :=
  [ .claimExec 1, .execRead 1, .execFetch 1, .execFinish 1, .publishOne 1 1, .endPublish 1,
    .recordResult 1 false, .tailTs 1, .tailLts 1,
    .claimExec 2, .execRead 2, .execFinish 2, .publishOne 2 2, .endPublish 2, .recordResult 2 false,
    .tailTs 2, .tailLts 2,
    .claimExec 0, .execFinish 0, .publishOne 0 0, .endPublish 0, .recordResult 0 false, .tailTs 0,
    .tailLts 0,
    .claimVal 0, .valTs 0, .endScan 0, .finalize, .commit,
    .claimVal 1, .valTs 1, .valCheck 1 0, .endScan 1, .markOne 1 1, .endValMark 1, .tailTs 1,
    .tailLts 1,
    .claimExec 1, .execRead 1, .execFinish 1, .endPublish 1, .removeOne 1 1, .recordResult 1 false,
    .valTs 1, .valCheck 1 0, .endScan 1, .finalize, .commit,
    .claimVal 2, .valTs 2 ]

def vanishSuffix : List Act :=
  [ .valCheck 2 0, .endScan 2, .markOne 2 2, .endValMark 2, .tailTs 2,
    .claimExec 2, .execRead 2, .execFetch 2, .execFinish 2, .publishOne 2 2, .endPublish 2,
    .recordResult 2 false, .valTs 2, .valCheck 2 0, .endScan 2, .finalize, .commit ]

example : (run vanishParams init vanishPrefix).map (fun s =>
      match s.phase 2 with
      | .valScan _ _ (r :: _) _ =>
          r.loc == 1 && r.ver == some (1, 1) && r.val == 7 &&
            (resolve s.mv 2 r.loc).isNone && !readOk s.mv 2 r
      | _ => false) = some true := by decide

example : (run vanishParams init (vanishPrefix ++ vanishSuffix)).map
      (fun s => (s.fin, s.com, s.outcomes)) =
    some (3, 3, [.ok [(0, 1)] 0, .ok [] 0, .ok [(2, 1)] 0]) := by decide

end Grevm.Sched
