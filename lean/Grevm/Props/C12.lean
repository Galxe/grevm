/-
C12 — the delegated-CREATE guard halts exactly delegated-context creates, nothing else.
Model: `Grevm/Model/Guard.lean`.  The decision has six boolean inputs; the theorems quantify over
all of them (kernel-checked case analysis, no sampling).  That every *other* opcode, gas cost and
error is stock revm's is structural (the table is `new_mainnet_with_spec` with two entries
replaced) and is exercised by the end-to-end comparison with stock revm driven by this very
decision function (harness oracle).
-/
import Grevm.Model.Guard

namespace Grevm.Guard

/-- Prague implies Petersburg (hardfork order). -/
def SpecOk (prague petersburg : Bool) : Prop := prague = true → petersburg = true

/-- **guard_exact.** The engine differs from stock revm at a create iff the guard is on, the spec is
    Prague or later, stock revm would have created, and the context account is delegated. -/
theorem guard_exact (enabled prague isStatic isCreate2 petersburg delegated : Bool) :
    effective enabled prague isStatic isCreate2 petersburg delegated
        ≠ stockCreate isStatic isCreate2 petersburg
      ↔ (enabled = true ∧ prague = true ∧ delegated = true ∧
          stockCreate isStatic isCreate2 petersburg = .stock) := by
  -- the table is finite by nature: all 64 rows are checked here, once; the three theorems that
  -- say where the guard is inert are the contrapositives
  revert enabled prague isStatic isCreate2 petersburg delegated
  decide

/-- **guard_only_delegated.** A frame whose context account carries no designator — ordinary
    contracts, top-level create transactions' init code — behaves as stock revm, guard on or off. -/
theorem guard_only_delegated (enabled prague isStatic isCreate2 petersburg : Bool) :
    effective enabled prague isStatic isCreate2 petersburg false
      = stockCreate isStatic isCreate2 petersburg :=
  Decidable.of_not_not fun h => Bool.false_ne_true ((guard_exact ..).1 h).2.2.1

/-- **guard_inert_off.** Guard disabled, or a spec before Prague: stock revm, whatever the target. -/
theorem guard_inert_off (enabled prague isStatic isCreate2 petersburg delegated : Bool)
    (h : enabled = false ∨ prague = false) :
    effective enabled prague isStatic isCreate2 petersburg delegated
      = stockCreate isStatic isCreate2 petersburg :=
  Decidable.of_not_not fun hne => by
    obtain ⟨rfl, rfl, -⟩ := (guard_exact ..).1 hne
    cases h <;> contradiction

/-- **errors_keep_precedence.** Static-call and pre-Petersburg CREATE2 errors are reported exactly
    as by stock revm, before the delegation check. -/
theorem errors_keep_precedence (enabled prague isStatic isCreate2 petersburg delegated : Bool)
    (h : stockCreate isStatic isCreate2 petersburg ≠ .stock) :
    effective enabled prague isStatic isCreate2 petersburg delegated
      = stockCreate isStatic isCreate2 petersburg :=
  Decidable.of_not_not fun hne => h ((guard_exact ..).1 hne).2.2.2

/-- **guard_halts.** Guard on, Prague or later, non-static frame of a delegated account: the frame
    halts as not-activated — for CREATE and CREATE2 alike. -/
theorem guard_halts (isCreate2 petersburg : Bool) (h : SpecOk true petersburg) :
    effective true true false isCreate2 petersburg true = .notActivated := by
  cases h rfl; cases isCreate2 <;> rfl

/-- A create that does not run cannot bump the context account's nonce: with `bump` the nonce
    increment a running create performs on its context account. -/
def nonceAfter (o : Outcome) (nonce : Nat) : Nat :=
  match o with
  | .stock => nonce + 1
  | _ => nonce

/-- **delegated_nonce_kept.** Under the guard, delegated code cannot advance the account's nonce. -/
theorem delegated_nonce_kept (isStatic isCreate2 petersburg : Bool) (nonce : Nat)
    (h : SpecOk true petersburg) :
    nonceAfter (effective true true isStatic isCreate2 petersburg true) nonce = nonce := by
  cases h rfl; cases isStatic <;> cases isCreate2 <;> rfl

/-- Non-vacuity: the three outcomes all occur. -/
example :
    (effective true true false false true true, effective true true false true true false,
      effective true false false false true true, effective true true true false true true)
      = (.notActivated, .stock, .stock, .staticViolation) := by decide

end Grevm.Guard
