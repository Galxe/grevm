/-
C09 — in-block code changes (CREATE, EIP-7702 set / re-point / clear / set again) reach later
transactions.  Model: `Grevm/Model/Repr.lean`; storage/balance/nonce follow `Props/C08.lean`.
-/
import Grevm.Props.C08

namespace Grevm.Repr

/-- The `code_changed` predicate of `publish_writes`: the `Code` location is (re)published iff the
    post-state has code and its code id differs from what the account had before this
    transaction (or the account did not exist). -/
def CodeChangedOk (base : LState) (txs : Nat → TxChanges) (codeChanged : Nat → Nat → Bool) : Prop :=
  ∀ j a info slots, (txs j a = .created info slots ∨ txs j a = .updated info slots) →
    (codeChanged j a = true ↔
      (info.code ≠ 0 ∧ ∀ pre, (logical base txs j).acct a = some pre → pre.code ≠ info.code))

/-- The `Code` entry of one change: published with the code of the post-state, and withheld only
    where the account already had that code. -/
theorem publish_code (s : LState) (a : Nat) (ch : Change) (sb cc : Bool)
    (hcc : ∀ info slots, (ch = .created info slots ∨ ch = .updated info slots) →
      (cc = true ↔ (info.code ≠ 0 ∧ ∀ pre, s.acct a = some pre → pre.code ≠ info.code)))
    {info : Info} (hpost : (commitL s a ch).acct a = some info) (hne : info.code ≠ 0) :
    (publishAcct ch sb cc).2.2.2 = some info.code ∨
      ((publishAcct ch sb cc).2.2.2 = none ∧ ∃ pre, s.acct a = some pre ∧ pre.code = info.code) := by
  cases ch with
  | unchanged => exact .inr ⟨rfl, info, hpost, rfl⟩
  | deleted => cases hpost.symm.trans (if_pos rfl)
  | created info' slots | updated info' slots =>
    obtain rfl : info = info' := Option.some.inj (hpost.symm.trans (if_pos rfl))
    cases cc with
    | true => exact .inl rfl
    | false => exact .inr ⟨rfl, Classical.byContradiction fun hn => Bool.false_ne_true <|
        (hcc info slots (by simp)).mpr ⟨hne, fun pre hp hc => hn ⟨pre, hp, hc⟩⟩⟩

/-- **repr_code.** An account read fills its code from the latest preceding `Code(a)` version, else
    from the backing store by the account's code id — and that is always the code in-order execution
    sees, for every sequence of deploy / set / re-point / clear / set-again / delete / recreate. -/
theorem repr_code (base : LState) (txs : Nat → TxChanges) (sb cc : Nat → Nat → Bool)
    (hcc : CodeChangedOk base txs cc) (i a : Nat) (info : Info)
    (hacct : (logical base txs i).acct a = some info) (hne : info.code ≠ 0) :
    readCode (mvOf txs sb cc) i a info.code = info.code := by
  induction i generalizing info with
  | zero => rfl
  | succ i ih =>
    rw [readCode_succ]
    show ((publishAcct (txs i a) (sb i a) (cc i a)).2.2.2).getD _ = _
    rcases publish_code _ a _ _ _ (hcc i a) hacct hne
      with h | ⟨h, pre, hpre, hc⟩
    · rw [h]; rfl
    · rw [h, ← hc]; exact ih pre hpre (hc ▸ hne)

/-- Invariant: if a `Code(a)` version exists below `i`, it is the code of the logical account. -/
theorem code_entry_current (base : LState) (txs : Nat → TxChanges) (sb cc : Nat → Nat → Bool)
    (hcc : CodeChangedOk base txs cc) :
    ∀ (i a j c : Nat), latest (fun j => (mvOf txs sb cc j).code a) i = some (j, c) →
      ∀ info, (logical base txs i).acct a = some info → info.code ≠ 0 → info.code = c := by
  intro i a j c hl info hacct hne
  have h := repr_code base txs sb cc hcc i a info hacct hne
  simp only [readCode, hl] at h
  exact h.symm

theorem codeChangedOk_real (base : LState) (txs : Nat → TxChanges) :
    CodeChangedOk base txs (codeChangedReal base txs) := by
  intro j a info slots hch
  simp only [codeChangedReal, info?_of_change hch]
  cases (logical base txs j).acct a <;> simp

/-- **repr_code for the decision the code makes.** -/
theorem repr_code_real (base : LState) (txs : Nat → TxChanges) (i a : Nat) (info : Info)
    (hacct : (logical base txs i).acct a = some info) (hne : info.code ≠ 0) :
    readCode (mvOf txs (skipReal base txs) (codeChangedReal base txs)) i a info.code = info.code :=
  repr_code base txs _ _ (codeChangedOk_real base txs) i a info hacct hne

/-- Re-delegation (an update) never publishes a reset marker: storage is kept. -/
theorem redelegation_keeps_storage (ch : Change) (info : Info) (slots : List (Nat × Nat))
    (sb cc : Bool) (h : ch = .updated info slots) : (publishAcct ch sb cc).2.1 = false := by
  subst h; rfl

/-- Non-vacuity: account 5 has code 7 in the backing store; tx 0 re-points it to 8, tx 1 clears
    it (code 0), tx 2 sets it again to 7. -/
example :
    let base : LState := { acct := fun _ => some ⟨1, 7⟩, stor := fun _ _ => 0 }
    let txs : Nat → TxChanges := fun j a =>
      if a ≠ 5 then .unchanged
      else if j = 0 then .updated ⟨2, 8⟩ []
      else if j = 1 then .updated ⟨3, 0⟩ []
      else if j = 2 then .updated ⟨4, 7⟩ []
      else .unchanged
    let cc : Nat → Nat → Bool := fun j a => a == 5 && (j == 0 || j == 2)
    let mv := mvOf txs (fun _ _ => false) cc
    (readCode mv 0 5 7, readCode mv 1 5 8, readCode mv 3 5 7,
      (readBasic mv base 2 5).map (·.code)) = (7, 8, 7, some 0) := by decide

end Grevm.Repr
