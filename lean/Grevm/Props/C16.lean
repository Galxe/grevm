/-
C16 — a blocked transaction is always re-offered once its blocker resolves.
Model: `Grevm/Model/TxDep.lean`.
-/
import Grevm.Lemmas.TxDepClaim

namespace Grevm.TxDep

/-- **single_claim (step form).** A step in which `next()` hands out `i` finds `i` on board with
    no blocker and takes it off board in the same lock-protected step: between two
    `onboard := true` at most one claimer gets the transaction. -/
theorem next_claim_takes_offboard {s s' : State} {t i pick : Nat}
    (hpc : s.pc t = .nextLock i) (h : step s (.stepT t pick) = some (s', some (some i))) :
    s.onboard i = true ∧ s.dependency i = none ∧ s'.onboard i = false := by
  cases Step.of_step hpc h with
  | nextLockClaim _ hc => exact ⟨hc.1, hc.2, upd_same⟩

/-- Non-vacuity / regression: the stale-reverse-edge scenario of the repo's unit test, run on
    the model: tx 2 re-pointed from blocker 0 to blocker 1 is not released by `remove(0)`. -/
example :
    (run (init 3)
      [.call 0 .next, .stepT 0 0, .stepT 0 0, .stepT 0 0,
       .call 0 .next, .stepT 0 0, .stepT 0 0, .stepT 0 0,
       .call 0 .next, .stepT 0 0, .stepT 0 0, .stepT 0 0,
       .call 0 (.add 2 (some 0)), .stepT 0 0, .stepT 0 0, .stepT 0 0, .stepT 0 0,
       .call 0 (.add 2 (some 1)), .stepT 0 0, .stepT 0 0, .stepT 0 0, .stepT 0 0,
       .call 0 (.remove 0 false), .stepT 0 0, .stepT 0 2]).map
      (fun r => (r.1.dependency 2, r.1.onboard 2, r.1.index)) = some (some 1, true, 0) := by
  decide

/-- **lock_owner.** In every reachable state a record mutex / edge-set mutex is held by thread
    `t` exactly when `t`'s control point lies inside the corresponding critical section. -/
theorem lock_owner {n : Nat} {s : State} (h : Reachable n s) :
    (∀ i t, s.depLock i = some t ↔ HoldsDep (s.pc t) i) ∧
    (∀ d t, s.affLock d = some t ↔ HoldsAff (s.pc t) d) :=
  (inv_reachable h).lock

/-- Mutual exclusion on every record mutex. -/
theorem dep_mutex {n : Nat} {s : State} (h : Reachable n s) {i : Nat} {t u : Tid}
    (ht : HoldsDep (s.pc t) i) (hu : HoldsDep (s.pc u) i) : t = u :=
  owner_unique (lock_owner h).1 ht hu

/-- Mutual exclusion on every reverse-edge-set mutex. -/
theorem aff_mutex {n : Nat} {s : State} (h : Reachable n s) {d : Nat} {t u : Tid}
    (ht : HoldsAff (s.pc t) d) (hu : HoldsAff (s.pc u) d) : t = u :=
  owner_unique (lock_owner h).2 ht hu

/-- A free mutex means nobody is inside the critical section. -/
theorem lock_free_no_holder {n : Nat} {s : State} (h : Reachable n s) :
    (∀ i, s.depLock i = none → ∀ t, ¬ HoldsDep (s.pc t) i) ∧
    (∀ d, s.affLock d = none → ∀ t, ¬ HoldsAff (s.pc t) d) := by
  constructor
  · intro i hi t ht; have := ((lock_owner h).1 i t).2 ht; simp [hi] at this
  · intro d hd t ht; have := ((lock_owner h).2 d t).2 ht; simp [hd] at this

/-- **edge_covered.** In EVERY reachable state (no exception for a running `remove`), a forward
    edge `dependency[t] = some d` to another transaction has its reverse edge `t ∈ affect[d]`.
    (`d ≠ t` is needed: `key_tx` writes the self-edge `dependency[t] = some t` without a reverse
    edge, see the example below.) -/
theorem edge_covered {n : Nat} {s : State} (h : Reachable n s) {t d : Nat}
    (hdep : s.dependency t = some d) (hne : d ≠ t) : t ∈ s.affect d :=
  (inv_reachable h).edge.1 t d hdep hne

/-- Auxiliary half of the inductive invariant: the elements a running `remove(d)` has already
    processed no longer name `d` as their blocker (unless it is the self-edge of `d`). -/
theorem remove_seen_clear {n : Nat} {s : State} (h : Reachable n s) {u : Tid} {d : Nat}
    {seen : List Nat} (hu : rmOf (s.pc u) = some (d, seen)) {x : Nat} (hx : x ∈ seen)
    (hdep : s.dependency x = some d) : x = d :=
  (inv_reachable h).edge.2 u d seen hu x hx hdep

/-- Quiescent corollary of `edge_covered`. -/
theorem edge_covered_quiescent {n : Nat} {s : State} (h : Reachable n s)
    (_hq : ∀ u, s.pc u = .idle) {t d : Nat} (hdep : s.dependency t = some d) (hne : d ≠ t) :
    t ∈ s.affect d :=
  edge_covered h hdep hne

/-- The side condition `d ≠ t` of `edge_covered` cannot be dropped: `key_tx(1)` before tx 0 is
    committed writes the self-edge `dependency[1] = some 1` and no reverse edge. -/
example :
    (run (init 2) [.call 0 (.keyTx 1), .stepT 0 0, .stepT 0 0]).map
      (fun r => (r.1.dependency 1, r.1.affect 1)) = some (some 1, []) := by
  decide

/-- **stale_edge_harmless.** One iteration step of `remove(d)` on the listed element `tx`
    changes a `dependency` entry only if it is `tx`'s and it still named `d` (then it becomes
    `none`); a stale reverse edge (`dependency[tx] ≠ some d`) therefore changes nothing: neither
    `dependency`, nor `onboard`, nor the cursor. -/
theorem stale_edge_harmless {s s' : State} {t : Tid} {d tx : Nat} {pop : Bool} {seen : List Nat}
    {nx : Option Nat} {r : Ret} (hpc : s.pc t = .rmIter d pop seen nx)
    (h : step s (.stepT t tx) = some (s', r)) :
    (∀ x, s'.dependency x ≠ s.dependency x →
        x = tx ∧ s.dependency tx = some d ∧ s'.dependency tx = none) ∧
    (s.dependency tx ≠ some d →
        s'.dependency = s.dependency ∧ s'.onboard = s.onboard ∧ s'.index = s.index) := by
  have key : s.dependency tx = some d ∧ s'.dependency = upd s.dependency tx none ∨
      s.dependency tx ≠ some d ∧ s'.dependency = s.dependency ∧ s'.onboard = s.onboard ∧
        s'.index = s.index := by
    cases Step.of_step hpc h with
    | rmIterOffer _ _ hdep => exact .inl ⟨hdep, rfl⟩
    | rmIterHandoff _ _ hdep _ _ ho | rmIterClear _ _ hdep _ ho =>
        exact .inl ⟨hdep, (rmContinue_spec ho).2.1⟩
    | rmIterStale _ _ hdep ho =>
        have := rmContinue_spec ho
        exact .inr ⟨hdep, this.2.1, this.1, this.2.2.1⟩
  rcases key with ⟨hd, e⟩ | ⟨hd, e⟩
  · refine ⟨fun x hx => ?_, fun hst => absurd hd hst⟩
    by_cases hxt : x = tx
    · exact ⟨hxt, hd, e ▸ upd_same⟩
    · exact absurd (e ▸ upd_ne x hxt) hx
  · exact ⟨fun x hx => absurd (e.1 ▸ rfl) hx, fun _ => e⟩

/-- Explicit form of `Covers`: the pending control points that will claim `x` or rewind the
    cursor to (at most) `x`. -/
theorem covers_iff (p : Pc) (x : Nat) :
    Covers p x ↔
      p = .nextLock x ∨ (∃ d pop seen nx, p = .rmMin d pop seen nx x) ∨ p = .cmMin x ∨
      p = .keyMin x ∨ (∃ y, p = .addMin y x) ∨ p = .addNoneMin x := by
  constructor
  · cases p <;> rintro ⟨⟩ <;> simp
  · rintro (rfl | ⟨_, _, _, _, rfl⟩ | rfl | rfl | ⟨_, rfl⟩ | rfl) <;> rfl

/-- **claimable_covered.** In every reachable state a claimable transaction (`x < n`, on board,
    no blocker) is either not yet passed by the cursor, or some thread is at a control point that
    will examine exactly `x` (`nextLock x`) or `fetch_min` the cursor down to `x`
    (`rmMin … x`, `cmMin x`, `keyMin x`, `addMin _ x`, `addNoneMin x`). -/
theorem claimable_covered {n : Nat} {s : State} (h : Reachable n s) {x : Nat} (hx : x < n)
    (hon : s.onboard x = true) (hdep : s.dependency x = none) :
    s.index ≤ x ∨ ∃ u, Covers (s.pc u) x :=
  (inv_reachable h).claim.2 x hx hon hdep

/-- Quiescent corollary (**no orphan**): when no call is in flight, every claimable transaction
    is at or ahead of the cursor, so subsequent `next()` calls reach it. -/
theorem claimable_quiescent {n : Nat} {s : State} (h : Reachable n s)
    (hq : ∀ u, s.pc u = .idle) {x : Nat} (hx : x < n) (hon : s.onboard x = true)
    (hdep : s.dependency x = none) : s.index ≤ x :=
  (claimable_covered h hx hon hdep).resolve_right fun ⟨u, hu⟩ => by rw [hq u] at hu; exact hu

/-- **single_claim (hand-off step).** If an iteration step of `remove(d)` returns `i`, or leaves
    `i` as the carried hand-off value, then either `i` was already being carried, or this very
    step handed `i` off: it found `i` on board (record mutex free, blocker `d`) and in the same
    step took it off board and cleared its blocker. -/
theorem handoff_takes_offboard {s s' : State} {t : Tid} {d pick : Nat} {pop : Bool}
    {seen : List Nat} {nx : Option Nat} {r : Ret} (hpc : s.pc t = .rmIter d pop seen nx)
    (h : step s (.stepT t pick) = some (s', r)) {i : Nat}
    (hi : r = some (some i) ∨ pcNx (s'.pc t) = some i) :
    nx = some i ∨
      (i = pick ∧ i ∉ seen ∧ pop = true ∧ i = d + 1 ∧ s.index > i ∧ s.depLock i = none ∧
        s.onboard i = true ∧ s.dependency i = some d ∧
        s'.onboard i = false ∧ s'.dependency i = none) := by
  cases Step.of_step hpc h with
  | rmIterOffer =>
      exact .inl (hi.elim nofun fun e => by rwa [setPc_pc_same] at e)
  | rmIterClear _ _ _ _ ho | rmIterStale _ _ _ ho => exact .inl (rmContinue_carried ho hi)
  | rmIterHandoff hin hl hdep hon hh ho =>
      cases rmContinue_carried ho hi
      have e := rmContinue_spec ho
      exact .inr ⟨rfl, by simpa using hin.2, hh.1, hh.2.1, hh.2.2, hl, hon, hdep,
        e.1 ▸ upd_same, e.2.1 ▸ upd_same⟩

/-- The `fetch_min` step of `remove` only passes the carried hand-off value on. -/
theorem rmMin_carries {s s' : State} {t : Tid} {d tx pick : Nat} {pop : Bool}
    {seen : List Nat} {nx : Option Nat} {r : Ret} (hpc : s.pc t = .rmMin d pop seen nx tx)
    (h : step s (.stepT t pick) = some (s', r)) :
    (r = some nx ∧ s'.pc t = .idle) ∨ (r = none ∧ pcNx (s'.pc t) = nx) := by
  cases Step.of_step hpc h with
  | rmMin ho =>
      rcases (rmContinue_spec ho).2.2.2 with h | ⟨hr, hpc'⟩
      · exact .inl h
      · exact .inr ⟨hr, congrArg pcNx hpc'⟩

/-- At most one hand-off per `remove` call: a hand-off step starts with nothing carried. -/
theorem handoff_once {n : Nat} {s s' : State} (hr : Reachable n s) {t : Tid} {d pick : Nat}
    {pop : Bool} {seen : List Nat} {nx : Option Nat} {r : Ret}
    (hpc : s.pc t = .rmIter d pop seen nx)
    (h : step s (.stepT t pick) = some (s', r)) {i : Nat}
    (hi : r = some (some i) ∨ pcNx (s'.pc t) = some i) (hne : nx ≠ some i) : nx = none := by
  rcases handoff_takes_offboard hpc h hi with h1 | ⟨_, hns, _, hid, _⟩
  · exact absurd h1 hne
  · cases hnx : nx with
    | none => rfl
    | some j =>
        obtain ⟨hj, hjs⟩ : NxOk (.rmIter d pop seen (some j)) := hnx ▸ hpc ▸ (inv_reachable hr).nx t
        exact absurd (hj.trans hid.symm ▸ hjs) hns

/-- **single_claim.** Every step of the model that returns `some i` is either the claim step of
    `next()` (finds `i` on board with no blocker, takes it off board), or a step of `remove`
    returning the carried hand-off value, which was obtained by a hand-off step satisfying
    `handoff_takes_offboard` (possibly this very step). -/
theorem single_claim {s s' : State} {a : Act} {i : Nat}
    (h : step s a = some (s', some (some i))) :
    (s.pc a.tid = .nextLock i ∧ s.onboard i = true ∧ s.dependency i = none ∧
        s'.onboard i = false) ∨
    (∃ d pop seen nx, s.pc a.tid = .rmIter d pop seen nx ∧
        (nx = some i ∨
          (i = a.pick ∧ s.onboard i = true ∧ s.dependency i = some d ∧
            s'.onboard i = false ∧ s'.dependency i = none))) ∨
    (∃ d pop seen tx, s.pc a.tid = .rmMin d pop seen (some i) tx) := by
  have hs := step_sound h
  generalize s.pc a.tid = p at hs ⊢
  cases hs with
  | nextLockClaim _ hc => exact .inl ⟨rfl, hc.1, hc.2, upd_same⟩
  | rmIterClear _ _ _ _ ho | rmIterStale _ _ _ ho =>
      exact .inr (.inl ⟨_, _, _, _, rfl, .inl (rmContinue_carried ho (.inl rfl))⟩)
  | rmIterHandoff _ _ hdep hon _ ho =>
      cases rmContinue_carried ho (.inl rfl)
      have e := rmContinue_spec ho
      exact .inr (.inl ⟨_, _, _, _, rfl, .inr ⟨rfl, hon, hdep, e.1 ▸ upd_same, e.2.1 ▸ upd_same⟩⟩)
  | rmMin ho => cases rmContinue_carried ho (.inl rfl); exact .inr (.inr ⟨_, _, _, _, rfl⟩)

end Grevm.TxDep
