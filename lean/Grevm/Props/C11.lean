/-
C11 — the state facade of custom precompiles: static refusal before any change, sticky faults,
faults enforced by the adapter whatever the implementation does, all accesses through the journal.
Model: `Grevm/Model/Facade.lean`.  That facade accesses take part in conflict detection like opcode
accesses, follow frame reverts and leave no residue is the composition with C01/C02 (they ARE
journal accesses) and is decided end to end against in-order revm with the same adapters.
-/
import Grevm.Model.Facade

namespace Grevm.Facade

theorem load_bal (j : Journal) (a : Nat) : (load j a).bal = j.bal := by
  unfold load; split <;> rfl

theorem load_stor (j : Journal) (a : Nat) : (load j a).stor = j.stor := by
  unfold load; split <;> rfl

theorem mem_load (j : Journal) (a : Nat) : a ∈ (load j a).loaded := by
  unfold load; split
  · next h => exact List.contains_iff_mem.1 h
  · exact List.mem_cons_self

/-- A call either returns an error and leaves journal and mode alone (already faulted, refused, or
    failed by the database), or it is performed: through a journal load of its address, and
    writing balances or storage only if it is a mutation outside a static context. -/
theorem call_cases (dbFails : Op → Bool) (s : FState) (op : Op) :
    ((call dbFails s op).1.j = s.j ∧ (call dbFails s op).1.isStatic = s.isStatic ∧
      ∃ f, (call dbFails s op).2 = .err f) ∨
    ((op.isMutation && s.isStatic) = false ∧ (call dbFails s op).1.isStatic = s.isStatic ∧
      op.addr ∈ (call dbFails s op).1.j.loaded ∧
      (op.isMutation = false →
        (call dbFails s op).1.j.bal = s.j.bal ∧ (call dbFails s op).1.j.stor = s.j.stor)) := by
  fun_cases call dbFails s op
  -- already faulted, refused, failed by the database
  case case1 | case2 | case3 => exact .inl ⟨rfl, rfl, _, rfl⟩
  -- performed: the two reads
  case case4 | case5 =>
    next hm _ _ =>
      exact .inr ⟨Bool.eq_false_iff.2 hm, rfl, mem_load .., fun _ => ⟨load_bal .., load_stor ..⟩⟩
  -- performed: the two writes
  case case6 | case7 =>
    next hm _ _ => exact .inr ⟨Bool.eq_false_iff.2 hm, rfl, mem_load .., nofun⟩

theorem call_faulted (dbFails : Op → Bool) (s : FState) (op : Op) (f : Fault) (h : s.fault = some f) :
    call dbFails s op = (s, .err f) := by
  simp [call, h]

/-- **fault_sticky.** After a fault, every further call fails with that same fault and changes
    nothing — journal and fault alike. -/
theorem fault_sticky (dbFails : Op → Bool) (s : FState) (f : Fault) (h : s.fault = some f) :
    ∀ ops, (runOps dbFails s ops).1 = s ∧ ∀ r ∈ (runOps dbFails s ops).2, r = .err f := by
  intro ops
  induction ops with
  | nil => exact ⟨rfl, List.forall_mem_nil _⟩
  | cons op rest ih =>
    simp only [runOps, call_faulted dbFails s op f h]
    exact ⟨ih.1, List.forall_mem_cons.2 ⟨rfl, ih.2⟩⟩

/-- One call in a static context never changes balances or storage. -/
theorem call_static_no_change (dbFails : Op → Bool) (s : FState) (op : Op) (hs : s.isStatic = true) :
    (call dbFails s op).1.j.bal = s.j.bal ∧ (call dbFails s op).1.j.stor = s.j.stor ∧
      (call dbFails s op).1.isStatic = true := by
  rcases call_cases dbFails s op with ⟨hj, hst, _⟩ | ⟨hm, hst, _, hkeep⟩
  · rw [hj, hst]; exact ⟨rfl, rfl, hs⟩
  · rw [hs, Bool.and_true] at hm
    exact ⟨(hkeep hm).1, (hkeep hm).2, hst.trans hs⟩

/-- **static_refuses_before_change.** In a static context no sequence of facade calls — whatever
    the implementation does with the errors it is given — changes any balance or storage slot. -/
theorem static_refuses_before_change (dbFails : Op → Bool) (s : FState) (hs : s.isStatic = true) :
    ∀ ops, (runOps dbFails s ops).1.j.bal = s.j.bal ∧ (runOps dbFails s ops).1.j.stor = s.j.stor := by
  intro ops
  induction ops generalizing s with
  | nil => exact ⟨rfl, rfl⟩
  | cons op rest ih =>
    simp only [runOps]
    have h1 := call_static_no_change dbFails s op hs
    have h2 := ih (call dbFails s op).1 h1.2.2
    exact ⟨h2.1.trans h1.1, h2.2.trans h1.2.1⟩

/-- A mutation attempted in a static context while healthy records the static-violation halt. -/
theorem static_mutation_faults (dbFails : Op → Bool) (s : FState) (op : Op)
    (hs : s.isStatic = true) (hf : s.fault = none) (hm : op.isMutation = true) :
    (call dbFails s op).1.fault = some (.halt 0) ∧ (call dbFails s op).2 = .err (.halt 0) := by
  simp [call, hf, hm, hs]

/-- The fault, once recorded, survives the rest of the call sequence. -/
theorem fault_survives (dbFails : Op → Bool) (s : FState) (f : Fault) (h : s.fault = some f) (ops : List Op) :
    (runOps dbFails s ops).1.fault = some f := by
  rw [(fault_sticky dbFails s f h ops).1]; exact h

/-- **fault_enforced.** Whatever the implementation returns, the adapter reports the recorded
    fault: a halt stays a halt, a fatal error stays fatal; without a fault the implementation's
    result passes through unchanged. -/
theorem fault_enforced (final : FState) (impl : Outcome) :
    (∀ w, final.fault = some (.halt w) → adapter final impl = .halt w) ∧
    (∀ w, final.fault = some (.fatal w) → adapter final impl = .fatal w) ∧
    (final.fault = none → adapter final impl = impl) := by
  unfold adapter
  refine ⟨fun w h => ?_, fun w h => ?_, fun h => ?_⟩ <;> rw [h]

/-- **static_write_is_halt.** A precompile that tries to write in a static context and ignores the
    refusal is reported as a halt, and nothing was written. -/
theorem static_write_is_halt (dbFails : Op → Bool) (s : FState) (op : Op) (rest : List Op)
    (impl : Outcome) (hs : s.isStatic = true) (hf : s.fault = none) (hm : op.isMutation = true) :
    adapter (runOps dbFails s (op :: rest)).1 impl = .halt 0 ∧
      (runOps dbFails s (op :: rest)).1.j.bal = s.j.bal ∧
      (runOps dbFails s (op :: rest)).1.j.stor = s.j.stor := by
  -- the first call records the halt, the remaining calls keep it
  have hfault : (runOps dbFails s (op :: rest)).1.fault = some (.halt 0) :=
    fault_survives dbFails _ _ (static_mutation_faults dbFails s op hs hf hm).1 rest
  exact ⟨(fault_enforced _ impl).1 0 hfault,
    static_refuses_before_change dbFails s hs (op :: rest)⟩

/-- **reads_go_through_journal.** A successful facade access of address `a` leaves `a` loaded in
    the journal — the access is an ordinary journal (hence tracked) access. -/
theorem reads_go_through_journal (dbFails : Op → Bool) (s : FState) (op : Op) (v : Nat)
    (h : (call dbFails s op).2 = .ok v) : op.addr ∈ (call dbFails s op).1.j.loaded := by
  rcases call_cases dbFails s op with ⟨_, _, f, h'⟩ | ⟨_, _, hmem, _⟩
  · rw [h'] at h; cases h
  · exact hmem

/-- Read-your-writes inside one attempt. -/
theorem read_your_write (dbFails : Op → Bool) (s : FState) (a k v : Nat)
    (hs : s.isStatic = false) (hf : s.fault = none)
    (hd1 : dbFails (.sstore a k v) = false) (hd2 : dbFails (.sload a k) = false) :
    (runOps dbFails s [.sstore a k v, .sload a k]).2 = [.ok 0, .ok v] := by
  simp [runOps, call, hf, hs, hd1, hd2, Op.isMutation, load_stor]

/-- Non-vacuity: static context, write ignored, then a read. -/
example :
    let s : FState := { j := { bal := fun _ => 5, stor := fun _ _ => 7, loaded := [] }, isStatic := true, fault := none }
    ((runOps (fun _ => false) s [.sload 1 0, .sstore 1 0 9, .sload 1 0]).2,
      adapter (runOps (fun _ => false) s [.sload 1 0, .sstore 1 0 9, .sload 1 0]).1 (.ok 1))
      = ([.ok 7, .err (.halt 0), .err (.halt 0)], .halt 0) := by decide

end Grevm.Facade
