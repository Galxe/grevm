/-
C10 — reads performed concurrently by speculative workers never change what the committed-state
cache later serves, and the committed state is revm's `State`.  Models: `Grevm/Model/Cache.lean`
(slot fills racing commits), `Model/AccountFill.lean` (account fills), `Model/AcctState.lean` (the
account-status machines, with `Lemmas/AcctState.lean`).
-/
import Grevm.Lemmas.Cache
import Grevm.Model.AccountFill
import Grevm.Lemmas.AcctState

namespace Grevm.Cache

/-- Reachable from a well-formed start: a storage-known account has no storage in the database
    view that matters (`init` sets `logical` accordingly). -/
def Reachable (fixed : Bool) (s : State) : Prop :=
  ∃ dbv known as, run fixed (init dbv known) as = some s

/-- **cache_coherent.** With the repaired code, in every reachable state in which no commit is in
    progress, the value the cache serves for the slot is the value revm's `State` serves — for any
    number of readers, any history of destroy / create / update commits and any interleaving of
    reader steps with commit steps. -/
theorem cache_coherent (s : State) (h : Reachable true s) (hc : s.cpc = .idle) :
    serve s = s.logical := by
  obtain ⟨dbv, known, as, hrun⟩ := h
  exact (inv_run (inv_init dbv known) hrun).phase hc

/-- What a finished reader was told is not constrained (it may be stale: the attempt is
    speculative and validated elsewhere), but what it LEFT in the cache is: -/
theorem cache_entry_current (s : State) (h : Reachable true s) (hc : s.cpc = .idle) (v : Nat)
    (hv : s.cache = some v) : v = s.logical := by
  simpa only [serve, hv] using cache_coherent s h hc

/-- **f1_original_order_violates.** The original order (slots cleared before the status is
    updated, no re-check at the insert) reaches a quiescent state that serves a value revm's State
    does not: reader fetches 42, the account is destroyed, the reader inserts 42. -/
theorem f1_original_order_violates :
    ∃ s, Reachable false s ∧ s.cpc = .idle ∧ (∀ t, s.rpc t = .idle ∨ ∃ v, s.rpc t = .done v) ∧
      serve s ≠ s.logical := by
  refine ⟨{ known := true, cache := some 42, dbv := 42, logical := 0,
            rpc := fun u => if u = 0 then .done 42 else .idle, cpc := .idle },
          ⟨42, false, [.rLook 0, .cBegin .destroy, .rInsert 0, .cClear], ?_⟩, rfl, fun t => ?_,
          by decide⟩
  · simp [run, step, init, setR, Op.logicalAfter, Op.write]
    funext u
    by_cases hu : u = 0 <;> simp [hu]
  · by_cases ht : t = 0 <;> simp [ht]

/-- Non-vacuity of `cache_coherent`: the F1 schedule on the repaired code ends coherent. -/
example :
    (run true (init 42 false) [.rLook 0, .cBegin .destroy, .cClear, .rInsert 0]).map
      (fun s => (serve s, s.logical)) = some (0, 0) := by decide

end Grevm.Cache

namespace Grevm.AccountFill

/-- Coherence is itself inductive: a publication serves what was served before, a commit serves
    what it wrote. -/
theorem coherent_foldl {α : Type} (db : α) (ops : List (Op α)) (s : State α)
    (h : returned db s = logical db s) :
    returned db (ops.foldl (step db) s) = logical db (ops.foldl (step db) s) := by
  induction ops generalizing s with
  | nil => exact h
  | cons op ops ih =>
    refine ih _ ?_
    cases op with
    | publish => exact h
    | commit v => rfl

/-- **account_fill_coherent.** For every interleaving of account-filling reads (any number of
    readers, each publishing the database value at any later time) with any sequence of commits,
    the account the cache serves afterwards is the account revm's `State` serves after the same
    commits: a late publication never replaces a committed entry. -/
theorem account_fill_coherent {α : Type} (db : α) (ops : List (Op α)) :
    returned db (run db ops) = logical db (run db ops) :=
  coherent_foldl db ops init rfl

/-- **blind_publish_violates** (the shape of seeded change C10e): with a blind insert, a reader
    that fetched before a commit and publishes after it leaves the pre-block account in the
    cache. -/
theorem blind_publish_violates :
    (blindRun (0 : Nat) [.commit 7, .publish]).entry = some 0 ∧
    logical (0 : Nat) (blindRun 0 [.commit 7, .publish]) = 7 := by
  decide

example : (run (0 : Nat) [.publish, .commit 7, .publish]).entry = some 7 := by decide

end Grevm.AccountFill

/-! ### the account-status machine: grevm's caches refine revm's `CacheAccount` -/

namespace Grevm.Acct

/-- One operation: if grevm's code does not panic (`G.step` answers), revm's `State` produces the
    same output — the same `TransitionAccount` (info, status, previous info, previous status,
    storage-was-destroyed flag), the same account info, the same slot value, the same drained amount
    — and the two states stay related. -/
theorem step_refines {db : Db} (hdb : db.Ok) {g : G} {s : S} (hR : R db g s) (op : Op)
    (hpre : op.Pre) {g' : G} {o : Out} (hstep : G.step db g op = some (g', o)) :
    ∃ s', S.step db s op = (s', o) ∧ R db g' s' := by
  cases op with
  | basic =>
    cases hstep
    exact ⟨_, congrArg (fun a : GAcct => (_, Out.info a.info)) hR.loaded_g, hR.load hdb⟩
  | read k => exact sim_read hR k hstep
  | increment amt =>
    -- a non-zero increment leaves a non-empty account: revm's `applyTouched` is a `change`
    rw [G.step, if_neg hpre, ← hR.loaded_g] at hstep; cases hstep
    refine ⟨_, ?_, hR.change hdb _ Slots.none⟩
    rw [S.step, SAcct.applyTouched, if_neg]; rfl
    intro h; simp only [Info.isEmpty, Bool.and_eq_true, beq_iff_eq] at h
    exact satAdd_pos _ amt hpre h.1.2
  | drain =>
    simp only [G.step, ← hR.loaded_g, Option.some.injEq, Prod.mk.injEq] at hstep
    obtain ⟨rfl, rfl⟩ := hstep
    obtain ⟨ht, hR'⟩ := sim_applyTouched hdb hR { (s.loaded db).g.info.getD Info.zero with balance := 0 }
    rw [ht]; exact ⟨_, rfl, hR'⟩
  | change i c =>
    obtain ⟨_ | ga, m⟩ := g
    · cases hstep
    obtain rfl : (s.loaded db).g = ga := hR.loaded_g
    cases hstep
    exact ⟨_, rfl, hR.change hdb i c⟩
  | selfdestruct | touchEmpty | create i c =>
    -- the slot map is replaced: nothing about the previous state is needed beyond the account
    obtain ⟨_ | ga, m⟩ := g
    · cases hstep
    obtain rfl : (s.loaded db).g = ga := hR.loaded_g
    cases hstep
    exact ⟨_, rfl, R.of_eq hdb rfl rfl (inv_of_known
      (by simp [known_selfdestructed, known_touched, known_created]))⟩

theorem G.run_cons {db : Db} {g g' : G} {op : Op} {rest : List Op} {outs : List Out} :
    G.run db g (op :: rest) = some (g', outs) ↔
      ∃ g1 o os, G.step db g op = some (g1, o) ∧ G.run db g1 rest = some (g', os) ∧ outs = o :: os := by
  constructor
  · intro h
    rw [G.run] at h
    split at h
    · cases h
    · next g1 o hs =>
      split at h <;> cases h
      next os hr => exact ⟨g1, o, os, hs, hr, rfl⟩
  · rintro ⟨g1, o, os, hs, hr, rfl⟩
    simp only [G.run, hs, hr]

/-- **acct_machine_refines_revm.** For every backing store that meets revm's own assumption (no
    storage under an account without nonce and code) and EVERY history of loads, slot reads,
    committed journal states (selfdestruct, create, empty-touch, change), balance increments
    (non-zero, as documented) and drains on which grevm's code does not panic, revm's `State`
    produces exactly the same outputs — transitions (which is what the bundle is built from),
    account infos, slot values, drained amounts — and the final states are related. -/
theorem acct_machine_refines_revm {db : Db} (hdb : db.Ok) (ops : List Op) :
    ∀ {g : G} {s : S}, R db g s → (∀ op ∈ ops, op.Pre) →
    ∀ {g' : G} {outs : List Out}, G.run db g ops = some (g', outs) →
      (S.run db s ops).2 = outs ∧ R db g' (S.run db s ops).1 := by
  induction ops with
  | nil => intro g s hR _ g' outs h; cases h; exact ⟨rfl, hR⟩
  | cons op rest ih =>
    intro g s hR hpre g' outs h
    obtain ⟨g1, o, os, hs, hr, rfl⟩ := G.run_cons.1 h
    obtain ⟨s1, hs1, hR1⟩ := step_refines hdb hR op (hpre op List.mem_cons_self) hs
    obtain ⟨ho, hR2⟩ := ih hR1 (fun x hx => hpre x (List.mem_cons_of_mem _ hx)) hr
    simp only [S.run, hs1]
    exact ⟨by rw [ho], hR2⟩

theorem acct_history_refines_revm {db : Db} (hdb : db.Ok) (ops : List Op) (hpre : ∀ op ∈ ops, op.Pre)
    {g' : G} {outs : List Out} (h : G.run db G.init ops = some (g', outs)) :
    (S.run db S.init ops).2 = outs ∧ R db g' (S.run db S.init ops).1 :=
  acct_machine_refines_revm hdb ops (R_init db hdb) hpre h

/-- **reads_equal_after_any_history.** After any such history every slot and the account read
    through grevm's caches equal what revm's `State` serves. -/
theorem reads_equal_after_any_history {db : Db} (hdb : db.Ok) (ops : List Op)
    (hpre : ∀ op ∈ ops, op.Pre) {g' : G} {outs : List Out}
    (h : G.run db G.init ops = some (g', outs)) :
    (∀ k, g'.readVal db k = (S.run db S.init ops).1.readVal db k) ∧
    (g'.loaded db).info = ((S.run db S.init ops).1.loaded db).info ∧
    (g'.loaded db).status = ((S.run db S.init ops).1.loaded db).status :=
  let r := (acct_history_refines_revm hdb ops hpre h).2
  ⟨r.reads, r.info, r.status⟩

/-- Once the account is cached grevm's code cannot panic, and the account stays cached. -/
theorem step_total_of_cached (db : Db) (g : G) (op : Op) (h : g.acct.isSome = true) :
    ∃ g' o, G.step db g op = some (g', o) ∧ g'.acct.isSome = true := by
  obtain ⟨_ | ga, m⟩ := g
  · cases h
  cases op with
  | read k | increment amt => rw [G.step]; split <;> exact ⟨_, _, rfl, rfl⟩
  | drain => exact ⟨_, _, rfl, G.applyTouched_cached ..⟩
  | _ => exact ⟨_, _, rfl, rfl⟩

theorem run_total_of_cached (db : Db) (ops : List Op) :
    ∀ g : G, g.acct.isSome = true → ∃ g' outs, G.run db g ops = some (g', outs) := by
  induction ops with
  | nil => intro g _; exact ⟨g, [], rfl⟩
  | cons op rest ih =>
    intro g h
    obtain ⟨g1, o, hs, h1⟩ := step_total_of_cached db g op h
    obtain ⟨g2, os, hr⟩ := ih g1 h1
    exact ⟨g2, o :: os, G.run_cons.2 ⟨_, _, _, hs, hr, rfl⟩⟩

/-- **loaded_history_refines_revm.** The hypothesis "grevm does not panic" of
    `acct_machine_refines_revm` is met by every history that starts by loading the account (as
    execution does before it can commit it): such a history always runs, and revm's `State`
    answers it identically. -/
theorem loaded_history_refines_revm {db : Db} (hdb : db.Ok) (ops : List Op)
    (hpre : ∀ op ∈ ops, op.Pre) :
    ∃ g' outs, G.run db G.init (.basic :: ops) = some (g', outs) ∧
      (S.run db S.init (.basic :: ops)).2 = outs ∧ R db g' (S.run db S.init (.basic :: ops)).1 := by
  obtain ⟨g', os, hr⟩ := run_total_of_cached db ops (G.init.load db) rfl
  have hrun := G.run_cons.2 ⟨_, _, _, (rfl : G.step db G.init .basic = _), hr, rfl⟩
  exact ⟨g', _, hrun,
    acct_history_refines_revm hdb _ (List.forall_mem_cons.2 ⟨show Op.Pre .basic from trivial, hpre⟩) hrun⟩

/-- **transition_is_exact_delta.** Every transition grevm reports for a committed journal state
    records exactly the cache entry before (previous info / status) and after (info / status) the
    operation — so the transitions of a block chain (each one's "previous" is its predecessor's
    "present"), which is what revert construction relies on. -/
theorem transition_is_exact_delta (db : Db) (g g' : G) (ga : GAcct) (op : Op) (t : Trans)
    (hga : g.acct = some ga)
    (hop : op = .selfdestruct ∨ op = .touchEmpty ∨ (∃ i c, op = .create i c) ∨ (∃ i c, op = .change i c))
    (h : G.step db g op = some (g', .trans (some t))) :
    t.prevInfo = ga.info ∧ t.prevStatus = ga.status ∧ g'.acct = some ⟨t.info, t.status⟩ := by
  obtain ⟨_, m⟩ := g
  subst hga
  rcases hop with rfl | rfl | ⟨i, c, rfl⟩ | ⟨i, c, rfl⟩
  -- selfdestruct and touchEmpty report a transition only from some statuses
  iterate 2
    simp only [G.step, Option.map, GAcct.selfdestruct, GAcct.touchEmpty] at h
    split at h <;> cases h
    exact ⟨rfl, rfl, rfl⟩
  all_goals cases h; exact ⟨rfl, rfl, rfl⟩

/-- **storage_known_is_monotone.** No status transition of a committed account makes a
    storage-known account storage-unknown again (so a zero served for an unread slot is never
    retracted in favour of the database). -/
theorem storage_known_is_monotone (st : Status) (h : st.known = true) (b : Bool) :
    (st.onChanged b).known = true ∧ st.onCreated.known = true ∧
    st.onSelfdestructed.known = true ∧ st.onTouchedEmpty.known = true :=
  ⟨known_mono_changed st b h, known_created st, known_selfdestructed st, known_touched st⟩

/-- **destroyed_account_serves_zero.** Right after a selfdestruct or an empty-touch is committed
    every slot reads zero on the grevm side, whatever was cached or is in the database. -/
theorem destroyed_account_serves_zero (db : Db) (g g' : G) (o : Out) (op : Op)
    (hop : op = .selfdestruct ∨ op = .touchEmpty) (h : G.step db g op = some (g', o)) (k : Nat) :
    g'.readVal db k = 0 := by
  obtain ⟨_ | ga, m⟩ := g <;> rcases hop with rfl | rfl <;> cases h <;>
    simp [G.readVal, G.known, Slots.none]

/-- The precondition on increments is needed: a zero increment of an existing empty account is
    skipped by grevm and committed as a touch (which deletes the account) by revm's default
    `increment_balances`. Callers pass non-zero amounts. -/
theorem zero_increment_differs :
    let db : Db := ⟨some Info.zero, fun _ => 0⟩
    (G.run db G.init [.increment 0, .basic]).map (·.2) = some [.trans none, .info (some Info.zero)] ∧
    (S.run db S.init [.increment 0, .basic]).2 ≠ [.trans none, .info (some Info.zero)] := by
  decide

/-- Non-vacuity: a history with a destroy, a re-creation with a slot, a change, reads, an
    increment and a drain runs on the grevm side and both sides answer alike. -/
example :
    let db : Db := ⟨some ⟨1, 5, 2⟩, fun k => if k = 0 then 40 else 0⟩
    let ops : List Op := [.basic, .read 0, .selfdestruct, .read 0,
      .create ⟨1, 0, 3⟩ (fun k => if k = 1 then some 9 else none), .read 1, .read 0,
      .change ⟨2, 7, 3⟩ (fun k => if k = 0 then some 4 else none), .read 0, .increment 3, .drain, .basic]
    (G.run db G.init ops).map (·.2) = some (S.run db S.init ops).2 ∧
    ((G.run db G.init ops).map (·.2)).isSome = true :=
  ⟨rfl, rfl⟩

end Grevm.Acct
