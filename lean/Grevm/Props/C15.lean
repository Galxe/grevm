/-
C15 — validation cursors never lose a pending validation or pass an unexecuted tx.
Model: `Grevm/Model/Cursor.lean`.  The cursor's step relation and invariant are proved here, the
frontier's invariant in `Lemmas/Frontier.lean`.
-/
import Grevm.Lemmas.Frontier

namespace Grevm.Cursor

/-- `step` as a relation: one rule for each way an action succeeds. -/
inductive Step (s : State) : Act → State → Ev → Prop
  | callClaim {t limit} : s.pc t = .idle →
      Step s (.callClaim t limit) (setPc s t (.claimLoad limit)) .tau
  | callRewind {t v} : s.pc t = .idle → Step s (.callRewind t v) (setPc s t (.rewind v)) .tau
  | loadNone {t limit} : s.pc t = .claimLoad limit → s.cursor ≥ limit →
      Step s (.load t) (setPc s t .idle) (.claimNone t limit)
  | load {t limit} : s.pc t = .claimLoad limit → ¬ s.cursor ≥ limit →
      Step s (.load t) (setPc s t (.claimCas limit s.cursor)) .tau
  | casOk {t limit} : s.pc t = .claimCas limit s.cursor →
      Step s (.casOk t) (setPc { s with cursor := s.cursor + 1 } t .idle)
        (.claimed t s.cursor limit)
  | casFail {t limit cur} : s.pc t = .claimCas limit cur →
      Step s (.casFail t) (setPc s t (.claimLoad limit)) .tau
  | fetchMin {t v} : s.pc t = .rewind v →
      Step s (.fetchMin t) (setPc { s with cursor := min s.cursor v } t .idle)
        (.rewound t v s.cursor)

theorem step_sound {s s' : State} {a : Act} {e : Ev} (h : step s a = some (s', e)) :
    Step s a s' e := by
  revert h
  fun_cases step s a <;> intro h <;> cases h <;> constructor <;> assumption

/-- Induction along a run; `P s es s'` speaks of the whole run from `s` to `s'`. -/
theorem run_induction {P : State → List Ev → State → Prop} (nil : ∀ s, P s [] s)
    (cons : ∀ {s a s1 e es s2}, step s a = some (s1, e) → P s1 es s2 → P s (e :: es) s2) :
    ∀ (as : List Act) {s s' : State} {es : List Ev}, run s as = some (s', es) → P s es s' := by
  intro as
  induction as with
  | nil => intro s s' es h; cases h; exact nil s
  | cons a as ih =>
    intro s s' es h
    rw [run] at h
    split at h
    · cases h
    · next hstep =>
      split at h <;> cases h
      next hrun => exact cons hstep (ih hrun)

/-- The only event that names a handed-out index is `claimed`. -/
def claims (k : Nat) : Ev → Prop
  | .claimed _ k' _ => k' = k
  | _ => False

/-- A step leaves the cursor at or below `k`, unless it is the successful CAS that hands out `k`:
    the cursor rises only by such a CAS, by one, and that CAS hands out the old value. -/
theorem step_cursor {s s' : State} {a : Act} {e : Ev} (h : step s a = some (s', e)) {k : Nat}
    (hk : s.cursor ≤ k) : s'.cursor ≤ k ∨ claims k e := by
  cases step_sound h with
  -- the new cursor is `s.cursor + 1`, the index handed out `s.cursor`
  | casOk => exact Nat.lt_or_eq_of_le hk
  | fetchMin => exact .inl (Nat.le_trans (Nat.min_le_left _ _) hk)
  | _ => exact .inl hk

/-- **no_skip.** Along any schedule, if the cursor is at or below `k` at one time and above `k`
    later, some claim in between returned exactly `k` — so every index from a rewind target up to
    the previous position is offered again, claims concurrent with the rewind included. -/
theorem no_skip (k : Nat) : ∀ (as : List Act) (s s' : State) (es : List Ev),
    run s as = some (s', es) → s.cursor ≤ k → k < s'.cursor → ∃ e ∈ es, claims k e := by
  intro as s s' es h
  refine run_induction
    (P := fun s es s' => s.cursor ≤ k → k < s'.cursor → ∃ e ∈ es, claims k e)
    (fun s h1 h2 => absurd h1 (Nat.not_le.2 h2)) ?_ as h
  intro s a s1 e es s2 hstep ih h1 h2
  obtain hk | hc := step_cursor hstep h1
  · obtain ⟨e', he', hc⟩ := ih hk h2
    exact ⟨e', .tail _ he', hc⟩
  · exact ⟨e, .head _, hc⟩

/-- **rewound indices are re-offered.** After `rewind(v)` from position `p`, if the cursor ever
    gets back to `p` (or beyond) then every index in `[v, p)` was claimed again after the rewind. -/
theorem rewind_reoffers {s s1 s2 : State} {t v : Nat} {e : Ev} {as : List Act} {es : List Ev}
    (hpc : s.pc t = .rewind v)
    (h : step s (.fetchMin t) = some (s1, e)) (hrun : run s1 as = some (s2, es))
    (hback : s.cursor ≤ s2.cursor) :
    ∀ k, v ≤ k → k < s.cursor → ∃ e' ∈ es, claims k e' := by
  cases step_sound h with
  | fetchMin hpc' =>
    cases hpc.symm.trans hpc'
    exact fun k h1 h2 => no_skip k as _ s2 es hrun (Nat.le_trans (Nat.min_le_right _ _) h1)
      (Nat.lt_of_lt_of_le h2 hback)

/-- A claim event carries the limit of the call that produced it and an index below it. -/
def claimBelowLimit : Ev → Prop
  | .claimed _ k limit => k < limit
  | _ => True

/-- What `Inv` says of the control state of one thread. -/
def Pc.Ok : Pc → Prop
  | .claimCas l k => k < l
  | _ => True

theorem Inv.setPc {s : State} (hi : Inv s) {c t : Nat} {p : Pc} (hp : p.Ok) :
    Inv (Cursor.setPc { s with cursor := c } t p) := by
  intro u l k hu
  change (if u = t then p else s.pc u) = _ at hu
  split at hu
  · subst hu
    exact hp
  · exact hi u l k hu

theorem step_ok {s s' : State} {a : Act} {e : Ev} (hi : Inv s) (h : step s a = some (s', e)) :
    Inv s' ∧ claimBelowLimit e := by
  cases step_sound h with
  | load _ hlt => exact ⟨hi.setPc (Nat.lt_of_not_le hlt), trivial⟩
  | casOk hpc => exact ⟨hi.setPc trivial, hi _ _ _ hpc⟩
  | _ => exact ⟨hi.setPc trivial, trivial⟩

theorem run_ok {as : List Act} {s s' : State} {es : List Ev} (h : run s as = some (s', es)) :
    Inv s → Inv s' ∧ ∀ e ∈ es, claimBelowLimit e :=
  run_induction (P := fun s es s' => Inv s → Inv s' ∧ ∀ e ∈ es, claimBelowLimit e)
    (fun _ hi => ⟨hi, List.forall_mem_nil _⟩)
    (fun hstep ih hi =>
      have ⟨hi1, he⟩ := step_ok hi hstep
      have ⟨hi2, hes⟩ := ih hi1
      ⟨hi2, List.forall_mem_cons.2 ⟨he, hes⟩⟩) as h

theorem inv_init (c : Nat) : Inv (init c) := nofun

theorem inv_run : ∀ (as : List Act) (s s' : State) (es : List Ev),
    Inv s → run s as = some (s', es) → Inv s' :=
  fun _ _ _ _ hi h => (run_ok h hi).1

/-- **claim_below_limit.** No index at or beyond the caller's limit is ever handed out, for any
    number of threads and any interleaving, from any initial cursor value. -/
theorem claim_below_limit : ∀ (as : List Act) (s s' : State) (es : List Ev),
    Inv s → run s as = some (s', es) → ∀ e ∈ es, claimBelowLimit e :=
  fun _ _ _ _ hi h => (run_ok h hi).2

/-- Non-vacuity: a claimer races a rewinder; index 0 and 1 are both re-offered. -/
example :
    (run (init 2) [.callRewind 0 0, .callClaim 1 2, .load 1, .fetchMin 0, .callClaim 1 2, .load 1,
      .casOk 1, .callClaim 1 2, .load 1, .casOk 1]).map (fun r => (r.1.cursor, r.2)) =
    some (2, [.tau, .tau, .claimNone 1 2, .rewound 0 0 2, .tau, .tau, .claimed 1 0 2, .tau, .tau,
      .claimed 1 1 2]) := by decide

/-! ## Execution frontier -/

namespace Frontier

/-- **frontier_sound.** In every state reachable by any interleaving of any number of
    publishers and readers, every index below the frontier has completed an execution. -/
theorem frontier_sound (n : Nat) (as : List Act) (s : State) (es : List Ev)
    (h : run (init n) as = some (s, es)) : ∀ i, i < s.frontier → s.executed i = true :=
  (inv_run (inv_init n) h).sound

/-- A value returned by `current()` never passes an unexecuted index either. -/
theorem current_sound {s s' : State} {a : Act} {t f : Nat} (hi : Inv s)
    (h : step s a = some (s', .current t f)) : ∀ i, i < f → s.executed i = true :=
  (step_ok hi h).2

/-- With no thread responsible the frontier stands at the first unset flag. -/
theorem Inv.exact {s : State} (hi : Inv s) (hq : ∀ t, ¬ Resp s t) :
    s.frontier = s.n ∨ (s.frontier < s.n ∧ s.executed s.frontier = false) :=
  (Nat.lt_or_eq_of_le hi.le).symm.imp_right fun hlt =>
    ⟨hlt, Bool.eq_false_iff.mpr fun hex => (hi.progress hlt hex).elim hq⟩

/-- **quiescent_exact (catches up regardless of completion order).** Whenever no publisher or
    reader is in flight, the frontier is exactly the first index whose flag is unset. -/
theorem quiescent_exact (n : Nat) (as : List Act) (s : State) (es : List Ev)
    (h : run (init n) as = some (s, es)) (hq : ∀ t, s.pc t = .idle) :
    (∀ i, i < s.frontier → s.executed i = true) ∧
      (s.frontier = s.n ∨ (s.frontier < s.n ∧ s.executed s.frontier = false)) :=
  have hi := inv_run (inv_init n) h
  ⟨hi.sound, hi.exact fun t ht => by rw [resp_iff, hq t] at ht; exact ht⟩

/-- Non-vacuity: out-of-order completion 1, 0 by two threads; the frontier ends at 2. -/
example :
    (run (init 3) [.callPublish 0 1, .stepT 0, .stepT 0, .stepT 0, .callPublish 1 0, .stepT 1,
      .stepT 1, .stepT 1, .stepT 1, .stepT 1, .stepT 1, .stepT 1, .stepT 1]).map
      (fun r => (r.1.frontier, r.1.pc 0, r.1.pc 1)) = some (2, .idle, .idle) := by decide

end Frontier

end Grevm.Cursor
