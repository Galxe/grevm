/-
C04 — errors are faithful and leave an exact committed prefix (decision logic part).
Model: `Grevm/Model/Commit.lean`.  The pinned tree violated the "never from a stale attempt"
clause (finding F2); see `error_branch_start_partial` and the witness in the harness corpus.
-/
import Grevm.Lemmas.Commit

namespace Grevm.Commit

/-- **replay_error_prefix.** When the sequential replay meets a fatal error at relative position
    `k`, it returns exactly `k` outcomes (the completed prefix) and that error; nothing after it. -/
theorem replay_error_prefix (rs : List TxRes) :
    ∀ (k err : Nat), (replay rs).2 = some (k, err) →
    (replay rs).1.length = k ∧ rs[k]? = some (.fatal err) ∧
    ∀ j, j < k → ∃ r, rs[j]? = some r ∧ ∀ e, r ≠ .fatal e := by
  induction rs using replay_induction with
  | nil => intro k err h; cases h
  | fatal e rest =>
    intro k err h
    cases h
    exact ⟨rfl, rfl, fun j hj => absurd hj (Nat.not_lt_zero j)⟩
  | step x o rest ho ih =>
    intro k err h
    rw [replay_cons_of_toOutcome ho] at h ⊢
    obtain ⟨⟨k', e⟩, hr, hk⟩ := Option.map_eq_some_iff.1 h
    cases hk
    obtain ⟨h1, h2, h3⟩ := ih k' e hr
    refine ⟨congrArg (· + 1) h1, h2, fun j hj => ?_⟩
    cases j with
    | zero => exact ⟨x, rfl, toOutcome_eq_some_iff.1 ⟨o, ho⟩⟩
    | succ j => exact h3 j (Nat.lt_of_succ_lt_succ hj)

/-- **post_execute mapping.** An error is returned only for a recorded fatal execution error or a
    commit error, with that transaction's index; every other abort replays the suffix from the
    committed boundary. -/
theorem post_execute_returns (aborted : Bool) (reason : Option AbortReason)
    (stored : Nat → Option Nat) (txid err : Nat)
    (h : postExecute aborted reason stored = .returnError txid err) :
    aborted = true ∧
      ((reason = some (.fatalEvmError txid) ∧ stored txid = some err) ∨
       reason = some (.commitError txid err)) := by
  revert h
  -- of the seven branches of `postExecute` only two return an error
  fun_cases postExecute aborted reason stored <;> intro h <;> cases h
  · next ha hs => exact ⟨by simpa using ha, .inl ⟨rfl, hs⟩⟩
  · next ha => exact ⟨by simpa using ha, .inr rfl⟩

/-- **error_branch_start_partial.** A fatal abort is raised only for an attempt that the branch
    regards as the commit head.  On the pinned tree `atCommitHead` was evaluated when the attempt
    ENDED (finding F2: a stale attempt that ends as commit head reports its error); with the
    repair it is evaluated when the attempt STARTS, and an attempt that starts at the commit head
    reads only final state (pipeline theorem), so its error is the in-order error. -/
theorem error_branch_start_partial (atHead invalid : Bool) (txid : Nat) (r : AbortReason)
    (h : errorBranch atHead invalid txid = some r) :
    atHead = true ∧ (r = .fatalEvmError txid ∨ r = .fallbackSequential) := by
  cases atHead <;> cases invalid <;> cases h
  · exact ⟨rfl, .inl rfl⟩
  · exact ⟨rfl, .inr rfl⟩

/-- **head_attempt_is_in_order.** An attempt that starts at the commit head (and therefore
    validates the nonce, finding F7) yields what in-order execution of that transaction yields, when
    its execution runs on final state. -/
theorem head_attempt_is_in_order (nonceBad : Option Nat) (exec : TxRes) :
    attempt true nonceBad exec = inOrderTx nonceBad exec := by
  cases nonceBad <;> rfl

/-- **fatal_only_if_in_order_fatal.** With the repair, a fatal abort is raised only when in-order
    execution of that transaction is fatal: a transaction that in-order validation rejects for
    its nonce can never abort the block with an execution error, whatever its execution would
    have met (database fault on the recipient, fatal precompile). -/
theorem fatal_only_if_in_order_fatal (atHead : Bool) (txid : Nat) (nonceBad : Option Nat) (exec : TxRes)
    (h : abortFor atHead txid (attempt atHead nonceBad exec) = some (.fatalEvmError txid)) :
    atHead = true ∧ ∃ e, inOrderTx nonceBad exec = .fatal e := by
  cases atHead with
  | false =>
    -- away from the head no result aborts
    generalize attempt false nonceBad exec = r at h
    cases r <;> cases h
  | true =>
    -- at the head the attempt is the in-order run, and only a fatal run gives `fatalEvmError`
    rw [head_attempt_is_in_order] at h
    generalize inOrderTx nonceBad exec = r at h ⊢
    cases r with
    | fatal e => exact ⟨rfl, e, rfl⟩
    | _ => cases h

/-- **f7_unchecked_head_attempt_violates.** Without the nonce validation at the head (the pinned
    tree), a transaction that in-order execution merely skips aborts the block with the error its
    execution met. -/
theorem f7_unchecked_head_attempt_violates :
    abortFor true 0 (attempt false (some 1) (.fatal 9)) = some (.fatalEvmError 0) ∧
      inOrderTx (some 1) (.fatal 9) = .invalid 1 := by decide

example : replay [.ok 1, .invalid 7, .fatal 9, .ok 2] = ([.executed 1, .skipped 7], some (2, 9)) := by
  decide

/-- **fee_fault_reported_at_boundary** (finding F8, repaired).  When the fee recipient's account
    cannot be read, every path that loads it at the boundary — the parallel path before its workers
    start, and the sequential replay since the repair — reports that error at the boundary with
    nothing committed, whatever the transactions are; without a fault the replay is unchanged. -/
theorem fee_fault_reported_at_boundary (e : Nat) (txs : List TxRes) :
    replayPreload (some e) txs = ([], some (0, e)) ∧ replayPreload none txs = replay txs :=
  ⟨rfl, rfl⟩

/-- Without a fault on the fee recipient the unrepaired sequential path computed the same replay. -/
theorem no_preload_same_without_fault (needs : Nat → Bool) (i : Nat) (txs : List TxRes) :
    replayNoPreload none needs i txs = replay txs := by
  induction txs generalizing i with
  | nil => rfl
  | cons x rest ih =>
    cases x with
    | ok | invalid => simp [replayNoPreload, replay, ih]
    | fatal => rfl

/-- **f8_no_preload_depends_on_path.** The unrepaired sequential path reported the same fault
    at the first transaction that pays a fee, after committing what precedes it: for
    `[invalid, ok, ok]` it returns one outcome and index 1 where the parallel path (and the
    reference of C04, which loads the fee recipient up front) returns none and index 0. -/
theorem f8_no_preload_depends_on_path :
    replayNoPreload (some 9) (fun _ => true) 0 [.invalid 3, .ok 1, .ok 2] = ([.skipped 3], some (1, 9)) ∧
    replayPreload (some 9) [.invalid 3, .ok 1, .ok 2] = ([], some (0, 9)) := by
  decide

end Grevm.Commit
