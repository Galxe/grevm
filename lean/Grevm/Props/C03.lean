/-
C03 — invalid transactions are skipped exactly as in-order validation dictates.
Model: `Grevm/Model/Commit.lean` (decision logic); the "validated reads = in-order state" premise
is the pipeline theorem of C01/C02.
-/
import Grevm.Lemmas.Commit

namespace Grevm.Commit

theorem ite_fallback_eq_committed (c : Prop) [Decidable c] (x : Gate) :
    (if c then Gate.fallback else x) = .committed ↔ ¬ c ∧ x = .committed := by
  split <;> simp [*]

/-- **nonce_gate.** Ordered commit accepts a speculative result iff nonce checking is disabled or
    the transaction nonce equals the committed state nonce and is not the overflow case. -/
theorem nonce_gate (d : Bool) (t s : Nat) :
    nonceGate d t s = .committed ↔ (d = true ∨ (t = s ∧ ¬ (t = U64_MAX ∧ s = U64_MAX))) := by
  cases d
  · -- every test of the cascade sends to `fallback`: the gate passes iff all of them fail
    simp only [nonceGate, Bool.false_eq_true, if_false, ite_fallback_eq_committed, false_or, and_true]
    -- the overflow test stands on both sides; the other two together say `t = s`
    rw [and_comm]
    exact and_congr_left' (by omega)
  · exact ⟨fun _ => .inl rfl, fun _ => rfl⟩

/-- The gate passes exactly when in-order nonce validation accepts the transaction. The gate only
    ever sees a transaction that HAS a speculative result, and revm produces none for nonce
    `u64::MAX` (`nonce_max_always_invalid`), hence the hypothesis. -/
theorem gate_iff_valid (d : Bool) (t s : Nat) (ht : t ≠ U64_MAX) :
    nonceGate d t s = .committed ↔ nonceInvalid d t s = none := by
  unfold nonceGate nonceInvalid
  cases d
  -- the two cascades make the same two comparisons
  · by_cases h1 : t > s <;> by_cases h2 : t < s <;> simp [ht, h1, h2]
  · simp [ht]

/-- A transaction with nonce `u64::MAX` is invalid in order whatever the state and the
    configuration; its speculative run is rejected by revm before execution, so it takes the
    invalid-transaction path (sequential replay) and never reaches the commit gate. -/
theorem nonce_max_always_invalid (d : Bool) (s : Nat) : nonceInvalid d U64_MAX s = some 0 := by
  simp [nonceInvalid]

/-- With nonce checking disabled no nonce-based skip or fallback occurs (nonce `u64::MAX` aside,
    which revm rejects in every configuration). -/
theorem nonce_check_off (t s : Nat) :
    nonceGate true t s = .committed ∧ (t ≠ U64_MAX → nonceInvalid true t s = none) := by
  simp [nonceGate, nonceInvalid]

/-- What the block reports for a transaction whose speculative (nonce-unchecked) result is
    `unchecked` and whose reads were validated against the in-order state: committed as is when the
    gate passes, otherwise left to the sequential replay, which runs revm with the nonce check on. -/
def reported (d : Bool) (t s : Nat) (unchecked : TxRes) (checkedInOrder : TxRes) : TxRes :=
  match nonceGate d t s with
  | .committed => unchecked
  | .fallback => checkedInOrder

/-- **gate_equiv.** If revm's validation is "nonce check ∧ nonce-independent rest" — i.e. the
    checked in-order run is the invalid-nonce verdict when the nonce is bad and otherwise equals the
    unchecked run on the same state — then what is reported equals the checked in-order result. -/
theorem gate_equiv (d : Bool) (t s : Nat) (unchecked checkedInOrder : TxRes) (ht : t ≠ U64_MAX)
    (hdecomp : checkedInOrder =
      match nonceInvalid d t s with
      | some reason => .invalid reason
      | none => unchecked) :
    reported d t s unchecked checkedInOrder = checkedInOrder := by
  unfold reported
  cases hg : nonceGate d t s with
  | committed => rw [hdecomp, (gate_iff_valid d t s ht).mp hg]
  | fallback => rfl

/-- **parallel_never_skips / replay_classification.** In the sequential replay an outcome is
    `Skipped r` iff the transaction's checked in-order run is `invalid r`; it is `Executed` iff the
    run succeeded; the replay never invents or drops an outcome before the first fatal error. -/
theorem replay_no_error (rs : List TxRes) (h : ∀ r ∈ rs, ∀ e, r ≠ .fatal e) :
    (replay rs).2 = none ∧ (replay rs).1 = rs.filterMap toOutcome ∧
    (replay rs).1.length = rs.length := by
  refine ⟨(replay_snd_eq_none_iff rs).2 h, ?_⟩
  induction rs using replay_induction with
  | nil => exact ⟨rfl, rfl⟩
  | fatal e rest => exact absurd rfl (h _ List.mem_cons_self e)
  | step x o rest ho ih =>
    obtain ⟨h1, h2⟩ := ih fun r hr => h r (List.mem_cons_of_mem _ hr)
    rw [replay_cons_of_toOutcome ho, List.filterMap_cons_some ho, ← h1]
    exact ⟨rfl, congrArg (· + 1) h2⟩

/-- A skipped transaction contributes no executed outcome and the replay continues after it:
    outcome `k` is the verdict of transaction `k`. -/
theorem replay_pointwise (rs : List TxRes) (h : ∀ r ∈ rs, ∀ e, r ≠ .fatal e) :
    ∀ (k : Nat) (r : TxRes), rs[k]? = some r → ((replay rs).1[k]?) = toOutcome r := by
  induction rs using replay_induction with
  | nil => intro k r hk; cases hk
  | fatal e rest => exact absurd rfl (h _ List.mem_cons_self e)
  | step x o rest ho ih =>
    intro k r hk
    rw [replay_cons_of_toOutcome ho]
    cases k with
    | zero => cases hk; exact ho.symm
    | succ k => exact ih (fun r hr => h r (List.mem_cons_of_mem _ hr)) k r hk

/-- An invalid-transaction error observed by a worker is never committed by the parallel path: at
    the commit head it requests the sequential replay (which owns the final verdict), elsewhere it
    is parked. -/
theorem invalid_never_fatal (atHead : Bool) (txid : Nat) :
    errorBranch atHead true txid = (if atHead then some .fallbackSequential else none) := by
  cases atHead <;> rfl

example : replay [.ok 1, .invalid 7, .ok 2] = ([.executed 1, .skipped 7, .executed 2], none) := by decide
example : nonceGate false 5 5 = .committed ∧ nonceGate false 4 5 = .fallback ∧
    nonceGate false U64_MAX U64_MAX = .fallback := by decide

end Grevm.Commit
