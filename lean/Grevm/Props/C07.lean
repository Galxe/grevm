/-
C07 — fee-recipient accounting is exact, deferred or immediate.
Model: `Grevm/Model/History.lean`.
-/
import Grevm.Model.History

namespace Grevm.History

/-- The exact effect of an entry, if any. -/
def effOf (e : Entry) : Option Effect :=
  match e.val with
  | .exact eff => some eff
  | .estimate => none

/-- In-order beneficiary account after the effects `effs` (oldest first). -/
def inOrder (anchor : Option Acct) (effs : List Effect) : Option Acct :=
  effs.foldl applyEffect anchor

theorem resolve_cons_reward (base : Option Acct) (amt : Nat) (rs : List Nat) :
    ({ base := base, rewards := amt :: rs, origins := [] } : Scan).resolve =
      some (applyReward amt ({ base := base, rewards := rs, origins := [] } : Scan).resolve) := by
  simp [Scan.resolve, List.foldl_append]

/-! ### `scanRev` through its three cases

An estimate blocks (`scanRev_estimate_blocks`), a snapshot restarts, and an `unchanged` or `reward`
entry is pushed onto the scan of the entries below it. -/

/-- What an `unchanged` or `reward` entry adds to the scan of the entries below it. -/
def Scan.push (eff : Effect) (o : Nat × Nat) (s : Scan) : Scan :=
  { s with
    rewards := match eff with | .reward amt => amt :: s.rewards | _ => s.rewards
    origins := o :: s.origins }

/-- An estimate below the reader blocks the read and names the blocker. -/
theorem scanRev_estimate_blocks (anchor : Option Acct) (e : Entry) (rest : List Entry) (k : Nat)
    (h : e.val = .estimate) : scanRev anchor (e :: rest) k = .error k := by
  rw [scanRev, h]

theorem scanRev_snapshot {anchor : Option Acct} {e : Entry} {a : Option Acct} (rest : List Entry)
    (k : Nat) (h : e.val = .exact (.snapshot a)) :
    scanRev anchor (e :: rest) k = .ok { base := a, rewards := [], origins := [(k, e.inc)] } := by
  rw [scanRev, h]

theorem scanRev_push {anchor : Option Acct} {e : Entry} {eff : Effect} (rest : List Entry) (k : Nat)
    (h : e.val = .exact eff) (hs : ∀ a, eff ≠ .snapshot a) :
    scanRev anchor (e :: rest) k = (scanRev anchor rest (k - 1)).map (Scan.push eff (k, e.inc)) := by
  rw [scanRev, h]
  cases eff with
  | snapshot a => exact absurd rfl (hs a)
  | _ => cases scanRev anchor rest (k - 1) <;> rfl

theorem Scan.resolve_push {eff : Effect} (hs : ∀ a, eff ≠ .snapshot a) (o : Nat × Nat) (s : Scan) :
    (s.push eff o).resolve = applyEffect s.resolve eff := by
  cases eff with
  | unchanged => rfl
  | reward amt => exact resolve_cons_reward ..
  | snapshot a => exact absurd rfl (hs a)

theorem Effect.snapshot_or (eff : Effect) : (∃ a, eff = .snapshot a) ∨ ∀ a, eff ≠ .snapshot a := by
  cases eff <;> simp

theorem map_eq_ok {ε α β : Type} {f : α → β} {x : Except ε α} {b : β} (h : x.map f = .ok b) :
    ∃ a, x = .ok a ∧ f a = b := by
  cases x with
  | error _ => cases h
  | ok a => exact ⟨a, rfl, Except.ok.inj h⟩

/-- Core of `scan_fold` on the reversed prefix (newest first). -/
theorem scanRev_fold (anchor : Option Acct) (rev : List Entry) (k : Nat) (effs : List Effect)
    (h : rev.map effOf = effs.map some) :
    ∃ s, scanRev anchor rev k = .ok s ∧ s.resolve = inOrder anchor effs.reverse := by
  induction rev generalizing k effs with
  | nil =>
    cases effs with
    | nil => exact ⟨_, rfl, rfl⟩
    | cons _ _ => cases h
  | cons e rest ih =>
    cases effs with
    | nil => cases h
    | cons eff effs' =>
      obtain ⟨he, hrest⟩ := List.cons.inj h
      have hval : e.val = .exact eff := by
        rcases e with ⟨_, _ | _⟩ <;> cases he
        rfl
      obtain ⟨s', hs', hres'⟩ := ih (k - 1) effs' hrest
      simp only [List.reverse_cons, inOrder, List.foldl_append, List.foldl_cons, List.foldl_nil]
      rcases eff.snapshot_or with ⟨a, rfl⟩ | hs
      · exact ⟨_, scanRev_snapshot rest k hval, rfl⟩
      · refine ⟨_, by rw [scanRev_push rest k hval hs, hs']; rfl, ?_⟩
        rw [Scan.resolve_push hs, hres']
        rfl

/-- **scan_fold.** If every entry below the reader is exact, a beneficiary read resolves to the
    in-order account: the anchor with the preceding effects applied oldest first, each reward
    with its own checked add (not sum-then-add), restarting at the nearest snapshot. -/
theorem scan_fold (h : Hist) (txid : Nat) (effs : List Effect)
    (hex : (h.entries.take txid).map effOf = effs.map some) :
    ∃ origins, resolveBefore h txid = .ok (inOrder h.anchor effs, origins) := by
  have hrev : (h.entries.take txid).reverse.map effOf = effs.reverse.map some := by
    rw [List.map_reverse, hex, List.map_reverse]
  obtain ⟨s, hs, hres⟩ := scanRev_fold h.anchor _ (txid - 1) effs.reverse hrev
  refine ⟨s.origins, ?_⟩
  simp only [resolveBefore, scanBefore, hs]
  rw [hres, List.reverse_reverse]

/-! ### Version determines value -/

/-- `h2` is a later state of the same block's history as `h1`: incarnations only grow, and an
    entry with an unchanged incarnation keeps its value or has been invalidated. -/
structure Evolves (h1 h2 : Hist) : Prop where
  anchor : h1.anchor = h2.anchor
  len : h1.entries.length = h2.entries.length
  entry : ∀ (j : Nat) (e1 e2 : Entry), h1.entries[j]? = some e1 → h2.entries[j]? = some e2 →
    e1.inc ≤ e2.inc ∧ (e1.inc = e2.inc → e2.val = e1.val ∨ e2.val = .estimate)

theorem Evolves.refl (h : Hist) : Evolves h h :=
  ⟨rfl, rfl, fun j e1 e2 h1 h2 => by rw [h1] at h2; cases h2; exact ⟨Nat.le_refl _, fun _ => Or.inl rfl⟩⟩

theorem Evolves.trans {h1 h2 h3 : Hist} (a : Evolves h1 h2) (b : Evolves h2 h3) : Evolves h1 h3 := by
  refine ⟨a.anchor.trans b.anchor, a.len.trans b.len, fun j e1 e3 g1 g3 => ?_⟩
  have hlt : j < h2.entries.length := a.len ▸ (List.getElem?_eq_some_iff.1 g1).1
  have g2 := List.getElem?_eq_getElem hlt
  obtain ⟨l12, v12⟩ := a.entry j e1 _ g1 g2
  obtain ⟨l23, v23⟩ := b.entry j _ e3 g2 g3
  refine ⟨Nat.le_trans l12 l23, fun heq => ?_⟩
  -- the middle incarnation lies between two equal ones
  have h12 : e1.inc = h2.entries[j].inc := Nat.le_antisymm l12 (heq ▸ l23)
  rcases v23 (h12.symm.trans heq) with h | h
  · rw [h]; exact v12 h12
  · exact .inr h

/-- History operations performed by workers. -/
inductive Op where
  | record (txid inc : Nat) (v : EntryVal)
  | invalidate (txid inc : Nat)
  deriving Repr

def applyOp (h : Hist) : Op → Hist
  | .record t i v => (record h t i v).1
  | .invalidate t i => (invalidate h t i).1

/-- Overwriting entry `t` by one that is newer, or an invalidation of the same incarnation. -/
theorem evolves_set (h : Hist) (t : Nat) {e e' : Entry} (he : h.entries[t]? = some e)
    (hinc : e.inc ≤ e'.inc) (hval : e.inc = e'.inc → e'.val = e.val ∨ e'.val = .estimate) :
    Evolves h { h with entries := h.entries.set t e' } := by
  refine ⟨rfl, (List.length_set ..).symm, fun j e1 e2 g1 g2 => ?_⟩
  by_cases htj : t = j
  · subst htj
    rw [List.getElem?_set_self (List.getElem?_eq_some_iff.1 he).1] at g2
    cases he.symm.trans g1; cases g2
    exact ⟨hinc, hval⟩
  · rw [List.getElem?_set_ne htj] at g2
    exact (Evolves.refl h).entry j e1 e2 g1 g2

theorem evolves_op (h : Hist) (op : Op) : Evolves h (applyOp h op) := by
  cases op with
  | record t i v =>
    show Evolves h (record h t i v).1
    fun_cases record h t i v
    -- no such entry
    · exact .refl h
    -- a stale incarnation is refused
    · exact .refl h
    -- a strictly newer one: nothing is claimed about its value
    · next he hlt =>
      exact evolves_set h t he (Nat.le_of_not_le hlt) fun heq =>
        absurd (Nat.le_of_eq heq.symm) hlt
  | invalidate t i =>
    show Evolves h (invalidate h t i).1
    fun_cases invalidate h t i
    -- no such entry
    · exact .refl h
    -- another incarnation
    · exact .refl h
    -- the named incarnation, exact so far, becomes an estimate
    · next he heq _ _ =>
      exact evolves_set h t he (Nat.le_of_eq (Decidable.of_not_not heq)) fun _ => .inr rfl
    -- an estimate already
    · exact .refl h

/-- Every state reached by any sequence of record / invalidate operations (any incarnations, any
    order, stale ones included) evolves from the earlier one. -/
theorem evolves_ops (ops : List Op) : ∀ h : Hist, Evolves h (ops.foldl applyOp h) := by
  induction ops with
  | nil => exact Evolves.refl
  | cons op ops ih => exact fun h => (evolves_op h op).trans (ih _)

/-- A successful scan starts with an exact entry and reports it first. -/
theorem scanRev_ok_cons {anchor : Option Acct} {e : Entry} {rest : List Entry} {k : Nat} {s : Scan}
    (h : scanRev anchor (e :: rest) k = .ok s) :
    ∃ eff, e.val = .exact eff ∧ s.origins.head? = some (k, e.inc) := by
  cases hv : e.val with
  | estimate => rw [scanRev_estimate_blocks _ _ _ _ hv] at h; cases h
  | exact eff =>
    refine ⟨eff, rfl, ?_⟩
    rcases eff.snapshot_or with ⟨a, rfl⟩ | hs
    · rw [scanRev_snapshot rest k hv] at h; cases h; rfl
    · rw [scanRev_push rest k hv hs] at h
      obtain ⟨_, _, rfl⟩ := map_eq_ok h
      rfl

/-- Two scans of coherent prefixes with equal origin chains are equal. -/
theorem scanRev_eq_of_origins (anchor : Option Acct) {r1 r2 : List Entry} {k : Nat} {s1 s2 : Scan}
    (hl : r1.length = r2.length)
    (hco : ∀ (j : Nat) (e1 e2 : Entry), r1[j]? = some e1 → r2[j]? = some e2 →
      (e1.inc = e2.inc → e2.val = e1.val ∨ e2.val = .estimate))
    (h1 : scanRev anchor r1 k = .ok s1) (h2 : scanRev anchor r2 k = .ok s2)
    (ho : s1.origins = s2.origins) : s1 = s2 := by
  induction r1 generalizing r2 k s1 s2 with
  | nil =>
    cases r2 with
    | nil => exact Except.ok.inj (h1.symm.trans h2)
    | cons _ _ => cases hl
  | cons e1 t1 ih =>
    cases r2 with
    | nil => cases hl
    | cons e2 t2 =>
      obtain ⟨f1, hv1, ho1⟩ := scanRev_ok_cons h1
      obtain ⟨f2, hv2, ho2⟩ := scanRev_ok_cons h2
      -- equal chains: same incarnation at the head, hence (coherence) the same effect
      have hinc : e1.inc = e2.inc := by
        rw [ho, ho2] at ho1; exact (congrArg Prod.snd (Option.some.inj ho1)).symm
      obtain rfl : f2 = f1 := by
        rcases hco 0 e1 e2 rfl rfl hinc with h | h <;> rw [hv2] at h
        · exact EntryVal.exact.inj (h.trans hv1)
        · cases h
      rcases f2.snapshot_or with ⟨a, rfl⟩ | hs
      · rw [scanRev_snapshot _ k hv1] at h1
        rw [scanRev_snapshot _ k hv2] at h2
        cases h1; cases h2; rw [hinc]
      · rw [scanRev_push _ k hv1 hs] at h1
        rw [scanRev_push _ k hv2 hs] at h2
        obtain ⟨a, ha, rfl⟩ := map_eq_ok h1
        obtain ⟨b, hb, rfl⟩ := map_eq_ok h2
        obtain rfl := ih (Nat.succ.inj hl) (fun j => hco (j + 1)) ha hb (List.cons.inj ho).2
        rw [hinc]

theorem getElem?_reverse_take {α : Type} {l : List α} {n j : Nat} (hj : j < (l.take n).length) :
    (l.take n).reverse[j]? = l[(l.take n).length - 1 - j]? := by
  have := List.length_take_le n l
  rw [List.getElem?_reverse hj, List.getElem?_take_of_lt (by omega)]

/-- **validate_sound.** Whatever records, estimates and invalidations (with stale incarnations
    too) happened between a beneficiary read and its validation: if validation accepts the
    origin chain recorded by the read, the account resolved now equals the account that was read —
    comparing the whole chain, not only the newest writer, is what makes this true. -/
theorem validate_sound (h1 : Hist) (ops : List Op) (txid : Nat) (acct : Option Acct)
    (origins : List (Nat × Nat))
    (hread : resolveBefore h1 txid = .ok (acct, origins))
    (hvalid : (validate (ops.foldl applyOp h1) txid origins).1 = true) :
    resolveBefore (ops.foldl applyOp h1) txid = .ok (acct, origins) := by
  have hev := evolves_ops ops h1
  generalize ops.foldl applyOp h1 = h2 at hev hvalid ⊢
  -- a failed scan contradicts `hvalid`, resp. `hread`
  revert hvalid
  fun_cases validate h2 txid origins <;> intro hvalid
  · cases hvalid
  revert hread
  fun_cases resolveBefore h1 txid <;> intro hread <;> cases hread
  next s2 hs2 s1 hs1 =>
    have hlen : (h1.entries.take txid).length = (h2.entries.take txid).length := by
      rw [List.length_take, List.length_take, hev.len]
    rw [resolveBefore, hs2]
    rw [scanBefore, ← hev.anchor] at hs2
    obtain rfl := scanRev_eq_of_origins h1.anchor
      (by rw [List.length_reverse, List.length_reverse, hlen])
      (fun j e1 e2 g1 g2 => by
        have hj : j < (h1.entries.take txid).length :=
          List.length_reverse ▸ (List.getElem?_eq_some_iff.1 g1).1
        rw [getElem?_reverse_take hj] at g1
        rw [getElem?_reverse_take (hlen ▸ hj), ← hlen] at g2
        exact (hev.entry _ e1 e2 g1 g2).2)
      hs1 hs2 (of_decide_eq_true hvalid).symm
    rfl

/-- A record is accepted exactly for a strictly newer incarnation of an existing entry; a stale
    record changes nothing. -/
theorem record_guard (h : Hist) (txid inc : Nat) (v : EntryVal) (e : Entry)
    (he : h.entries[txid]? = some e) :
    ((record h txid inc v).2 = true ↔ e.inc < inc) ∧
    ((record h txid inc v).2 = false → (record h txid inc v).1 = h) := by
  simp only [record, he]
  split
  · next hle => exact ⟨iff_of_false Bool.false_ne_true (Nat.not_lt.2 hle), fun _ => rfl⟩
  · next hlt => exact ⟨iff_of_true rfl (Nat.lt_of_not_le hlt), nofun⟩

/-- An invalidation touches only the incarnation it names. -/
theorem invalidate_guard (h : Hist) (txid inc : Nat) (e : Entry)
    (he : h.entries[txid]? = some e) (hne : e.inc ≠ inc) : invalidate h txid inc = (h, false) := by
  simp [invalidate, he, hne]

/-- **defer_iff.** A reward is deferred to ordered commit iff fee charging is on, the amount is
    non-zero and the beneficiary is not in the transaction's journal; a zero reward always goes
    through revm's own hook (and touches the account as revm does). -/
theorem defer_iff (i : RewardInput) (inJournal : Bool) (amt : Nat) :
    rewardDecision i inJournal = some (true, amt) ↔
      (rewardAmount i = some amt ∧ amt ≠ 0 ∧ inJournal = false) := by
  simp only [rewardDecision]
  cases rewardAmount i with
  | none => simp
  | some a =>
    simp
    constructor
    · rintro ⟨h, rfl⟩; exact ⟨rfl, h⟩
    · rintro ⟨rfl, h⟩; exact ⟨h, rfl⟩

/-- The reservoir gas is excluded and the base fee is subtracted only from London on. -/
theorem reward_formula (i : RewardInput) (hfee : i.feeDisabled = false) :
    rewardAmount i = some ((if i.london then i.effectiveGasPrice - i.basefee else i.effectiveGasPrice)
      * (i.gasUsed - i.reservoir)) := by
  simp [rewardAmount, hfee]

/-- A deferred (hence non-zero) reward materialises an absent beneficiary; overflow keeps the
    balance; every other field is preserved. -/
theorem applyReward_spec (amt : Nat) (a : Option Acct) :
    (applyReward amt a).rest = (a.getD Acct.default).rest ∧
    ((a.getD Acct.default).balance + amt ≤ U256_MAX →
      (applyReward amt a).balance = (a.getD Acct.default).balance + amt) ∧
    (U256_MAX < (a.getD Acct.default).balance + amt →
      (applyReward amt a).balance = (a.getD Acct.default).balance) := by
  simp only [applyReward]
  refine ⟨?_, fun h => ?_, fun h => ?_⟩
  · split <;> rfl
  · rw [if_pos h]
  · rw [if_neg (Nat.not_le.2 h)]

/-- **commit_fold.** Ordered commit, which applies the deferred reward of each transaction to the
    committed account in block order, leaves exactly the in-order account. -/
theorem commit_fold (anchor : Option Acct) (effs : List Effect) :
    effs.foldl applyEffect anchor = inOrder anchor effs := rfl

/-- Per-step checked add differs from sum-then-add: the order of application matters. -/
example : inOrder (some { balance := U256_MAX - 1, rest := 0 }) [.reward 2, .reward 1] =
    some { balance := U256_MAX, rest := 0 } := by decide

/-- Non-vacuity of `validate_sound`: an older reward changes incarnation while the newest stays;
    validation of the old chain fails, of the fresh chain succeeds. -/
example :
    let h0 := Hist.new (some { balance := 10, rest := 0 }) 3
    let h1 := [Op.record 0 1 (.exact (.reward 3)), Op.record 1 1 (.exact (.reward 4))].foldl applyOp h0
    let h2 := [Op.invalidate 0 1, Op.record 0 2 (.exact (.reward 5))].foldl applyOp h1
    (resolveBefore h1 2).toOption = some (some { balance := 17, rest := 0 }, [(1, 1), (0, 1)]) ∧
    (validate h2 2 [(1, 1), (0, 1)]).1 = false ∧
    (resolveBefore h2 2).toOption = some (some { balance := 19, rest := 0 }, [(1, 1), (0, 2)]) := by
  decide

/-- A committer that folds rewards into a RUNNING copy of the fee recipient and refreshes that copy
    from the `info` a touching transaction leaves behind — `dead` stands for the info a
    self-destructed account still carries — instead of from what the commit makes of it (`none`
    for a deleted account).  The shape of seeded change C07e. -/
def applyEffectRunning (dead : Acct) (a : Option Acct) : Effect → Option Acct
  | .unchanged => a
  | .reward amt => some (applyReward amt a)
  | .snapshot none => some dead
  | .snapshot (some s) => some s

/-- **running_copy_violates.** After the fee recipient is deleted, in-order execution credits the
    next fee to an ABSENT account (a fresh one is materialised); the running-copy committer credits
    it to the dead contract: nonce, code and the burned balance survive. -/
theorem running_copy_violates :
    let dead : Acct := { balance := 77, rest := 1 }
    inOrder (some dead) [.snapshot none, .reward 5] = some { balance := 5, rest := 0 } ∧
    [Effect.snapshot none, .reward 5].foldl (applyEffectRunning dead) (some dead) =
      some { balance := 82, rest := 1 } := by
  decide

/-- The two committers agree on every history in which the fee recipient is never deleted. -/
theorem running_copy_agrees_without_deletion (dead : Acct) (effs : List Effect) (a : Option Acct)
    (h : ∀ e ∈ effs, e ≠ .snapshot none) :
    effs.foldl (applyEffectRunning dead) a = effs.foldl applyEffect a := by
  induction effs generalizing a with
  | nil => rfl
  | cons e rest ih =>
    have step : applyEffectRunning dead a e = applyEffect a e := by
      cases e with
      | snapshot s =>
        cases s with
        | none => exact absurd rfl (h _ List.mem_cons_self)
        | some _ => rfl
      | _ => rfl
    rw [List.foldl_cons, List.foldl_cons, step]
    exact ih _ fun e' he' => h e' (List.mem_cons_of_mem _ he')

end Grevm.History
