/-
C06 — results do not depend on worker count, thresholds, sequential mode or timing.
Model: `Grevm/Model/Commit.lean` (`pathSelect`); the two paths are tied to one in-order semantics by
the pipeline theorem (C01/C02) and the replay theorems (C03/C04).
-/
import Grevm.Props.C03

namespace Grevm.Commit

/-- **path_select.** The sequential path is taken iff it is forced or the block is smaller than
    the threshold — a function of the configuration and the block size only. -/
theorem path_select (force : Bool) (n min : Nat) :
    pathSelect force n min = .sequential ↔ (force = true ∨ n < min) := by
  unfold pathSelect
  split <;> simp [*]

/-- An abstract execution: whichever path is selected, and whatever number of workers and schedule
    the parallel path uses, the result is what that path computes. -/
def execute (force : Bool) (n min : Nat) (parallelResult sequentialResult : α) : α :=
  match pathSelect force n min with
  | .sequential => sequentialResult
  | .parallel => parallelResult

/-- **config_independent.** Given that the parallel path (any workers, any schedule) and the
    sequential replay both yield the in-order result — the conclusions of the pipeline theorem and
    of `replay_no_error` / `replay_error_prefix` — any two configurations agree. -/
theorem config_independent {α : Type} (inOrder : α) (f1 f2 : Bool) (n m1 m2 : Nat) (p1 p2 s1 s2 : α)
    (hp1 : p1 = inOrder) (hp2 : p2 = inOrder) (hs1 : s1 = inOrder) (hs2 : s2 = inOrder) :
    execute f1 n m1 p1 s1 = execute f2 n m2 p2 s2 := by
  subst hp1 hp2 hs1 hs2
  unfold execute
  cases pathSelect f1 n m1 <;> cases pathSelect f2 n m2 <;> rfl

/-- **replay_append.** Replaying `xs ++ ys` when `xs` replays without a fatal error is the replay
    of `xs` followed by the replay of `ys`, the error position shifted by `xs.length`: the
    committed prefix of a parallel run followed by the sequential replay of the suffix is the
    sequential replay of the whole block, and an error in the suffix is reported at its GLOBAL
    index. -/
theorem replay_append (xs ys : List TxRes) (h : (replay xs).2 = none) :
    replay (xs ++ ys) =
      ((replay xs).1 ++ (replay ys).1, (replay ys).2.map fun p => (p.1 + xs.length, p.2)) := by
  induction xs using replay_induction with
  -- nothing is shifted: `fun p => (p.1 + 0, p.2)` is the identity
  | nil => exact Prod.ext rfl Option.map_id'.symm
  | fatal e rest => cases h
  | step x o rest ho ih =>
    rw [replay_cons_of_toOutcome ho, Option.map_eq_none_iff] at h
    rw [List.cons_append, replay_cons_of_toOutcome ho, replay_cons_of_toOutcome ho, ih h,
      Option.map_map]
    rfl

/-- The outcomes of a fault-free replay are one per transaction. -/
theorem replay_length (xs : List TxRes) (h : (replay xs).2 = none) : (replay xs).1.length = xs.length :=
  (replay_no_error xs ((replay_snd_eq_none_iff xs).1 h)).2.2

/-- **suffix_replay_is_sequential.** A parallel run that committed the first `k` transactions
    (their in-order outcomes, C02) and then replays the suffix sequentially yields exactly what the
    purely sequential path yields for the whole block — outcomes and error index alike. -/
theorem suffix_replay_is_sequential (block : List TxRes) (k : Nat)
    (hpre : (replay (block.take k)).2 = none) :
    ((replay (block.take k)).1 ++ (replay (block.drop k)).1,
      (replay (block.drop k)).2.map fun p => (p.1 + (block.take k).length, p.2)) = replay block := by
  have := replay_append (block.take k) (block.drop k) hpre
  rw [List.take_append_drop] at this
  exact this.symm

example : replay [.ok 1, .invalid 2, .ok 3, .fatal 9, .ok 4] = ([.executed 1, .skipped 2, .executed 3], some (3, 9)) := by
  decide

example : pathSelect false 3 0 = .parallel ∧ pathSelect false 3 4 = .sequential ∧
    pathSelect true 100 0 = .sequential := by decide

end Grevm.Commit
