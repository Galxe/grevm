/-
C14 — a scheduler executes its block at most once.  Model: `Grevm/Model/RunOnce.lean`.
-/
import Grevm.Model.RunOnce

namespace Grevm.RunOnce

@[simp] theorem setPc_started (s : State) (t : Nat) (p : Pc) : (setPc s t p).started = s.started := rfl
@[simp] theorem setPc_applied (s : State) (t : Nat) (p : Pc) : (setPc s t p).applied = s.applied := rfl
@[simp] theorem setPc_wins (s : State) (t : Nat) (p : Pc) : (setPc s t p).wins = s.wins := rfl

/-- What a thread's control state says about the flag and the number of applications. -/
def PcOk (started : Bool) (applied : Nat) : Pc → Prop
  | .running => applied = 0 ∧ started = true
  | .returnedOk => applied = 1
  | .returnedErr => started = true
  | _ => True

structure Inv (s : State) : Prop where
  wins_started : s.wins = if s.started then 1 else 0
  applied_le : s.applied ≤ s.wins
  threads : ∀ t, PcOk s.started s.applied (s.pc t)
  running_unique : ∀ t u, s.pc t = .running → s.pc u = .running → t = u

theorem inv_init : Inv init := ⟨rfl, Nat.le_refl _, fun _ => trivial, nofun⟩

theorem Inv.applied_zero {s : State} (hi : Inv s) (hs : s.started = false) : s.applied = 0 := by
  have := hi.applied_le
  rw [hi.wins_started, hs] at this
  exact Nat.le_zero.mp this

/-- Thread `t` moves to `p` while flag, applications and wins become `st`, `ap`, `w`. -/
theorem Inv.update {s : State} (hi : Inv s) (t : Nat) {p : Pc} {st : Bool} {ap w : Nat}
    (hw : w = if st then 1 else 0) (hle : ap ≤ w) (hp : PcOk st ap p)
    (hoth : ∀ u, u ≠ t → PcOk st ap (s.pc u) ∧ (p = .running → s.pc u ≠ .running)) :
    Inv (setPc { s with started := st, applied := ap, wins := w } t p) := by
  refine ⟨hw, hle, fun u => ?_, fun u v hu hv => ?_⟩
  · simp only [setPc]
    split
    · exact hp
    · exact (hoth u ‹_›).1
  · simp only [setPc] at hu hv
    split at hu <;> split at hv
    · exact ‹u = t›.trans ‹v = t›.symm
    · exact absurd hv ((hoth v ‹_›).2 hu)
    · exact absurd hu ((hoth u ‹_›).2 hv)
    · exact hi.running_unique u v hu hv

/-- A step that leaves flag and counters alone and does not enter the body. -/
theorem Inv.setPc {s : State} (hi : Inv s) {t : Nat} {p : Pc} (hp : PcOk s.started s.applied p)
    (hrun : p ≠ .running) : Inv (setPc s t p) :=
  hi.update t hi.wins_started hi.applied_le hp fun u _ => ⟨hi.threads u, fun h => absurd h hrun⟩

/-- Before the election nobody is running or has returned. -/
theorem PcOk.elect {p : Pc} (h : PcOk false 0 p) : PcOk true 0 p ∧ p ≠ .running := by
  cases p with
  | running => exact absurd h.2 Bool.false_ne_true
  | returnedOk => exact absurd h Nat.zero_ne_one
  | returnedErr => exact absurd h Bool.false_ne_true
  | _ => exact ⟨trivial, nofun⟩

/-- While the winner runs nobody else has returned `Ok`. -/
theorem PcOk.apply {st : Bool} {p : Pc} (h : PcOk st 0 p) (hr : p ≠ .running) : PcOk st 1 p := by
  cases p with
  | running => exact absurd rfl hr
  | returnedOk => exact absurd h Nat.zero_ne_one
  | _ => exact h

theorem inv_step {s s' : State} {a : Act} (hi : Inv s) (h : step s a = some s') : Inv s' := by
  revert h
  -- one goal for each branch of `step` that returns `some`, in the order of its definition
  fun_cases step s a <;> intro h <;> cases h
  -- call from idle
  · exact hi.setPc trivial nofun
  -- call after `Ok`
  · exact hi.setPc trivial nofun
  -- call after `Err`
  · exact hi.setPc trivial nofun
  -- cas, lost
  · next hs => exact hi.setPc hs nofun
  -- cas, won
  · next t _ hs =>
    have hs : s.started = false := Bool.eq_false_iff.mpr hs
    have hw : s.wins = 0 := (hs ▸ hi.wins_started :)
    have ha := hi.applied_zero hs
    refine hi.update t (congrArg (· + 1) hw) (ha ▸ Nat.zero_le _) ⟨ha, rfl⟩ fun u _ => ?_
    have := hi.threads u
    rw [hs, ha] at this
    exact ⟨ha ▸ this.elect.1, fun _ => this.elect.2⟩
  -- body
  · next t hrun =>
    have ⟨ha, hst⟩ : PcOk s.started s.applied .running := hrun ▸ hi.threads t
    have hw : s.wins = 1 := (hst ▸ hi.wins_started :)
    refine hi.update t hi.wins_started (by rw [ha, hw]; exact Nat.le_refl 1)
      (congrArg (· + 1) ha) fun u hu => ⟨?_, nofun⟩
    have := hi.threads u
    rw [ha] at this ⊢
    exact this.apply fun hpu => hu (hi.running_unique u t hpu hrun)

theorem inv_run {as : List Act} {s s' : State} (hi : Inv s) (h : run s as = some s') : Inv s' := by
  induction as generalizing s with
  | nil => cases h; exact hi
  | cons a as ih =>
    rw [run] at h
    split at h
    · cases h
    · next hs => exact ih (inv_step hi hs) h

theorem Inv.wins_le {s : State} (hi : Inv s) : s.wins ≤ 1 := by
  rw [hi.wins_started]
  cases s.started <;> decide

/-- **one_winner.** Among any number of concurrent or successive calls of the public entry
    points, in any interleaving, the block body is applied at most once, and at most one caller
    is ever inside it. -/
theorem one_winner (as : List Act) (s : State) (h : run init as = some s) :
    s.applied ≤ 1 ∧ s.wins ≤ 1 ∧ ∀ t u, s.pc t = .running → s.pc u = .running → t = u :=
  have hi := inv_run inv_init h
  ⟨Nat.le_trans hi.applied_le hi.wins_le, hi.wins_le, hi.running_unique⟩

/-- **exactly one.** As soon as any call has returned, exactly one election has been won; a
    call that returned `Ok` is the one whose body was applied. -/
theorem returned_implies_one_winner (as : List Act) (s : State) (h : run init as = some s)
    (t : Nat) (hret : s.pc t = .returnedOk ∨ s.pc t = .returnedErr) : s.wins = 1 := by
  have hi := inv_run inv_init h
  have ht := hi.threads t
  rcases hret with hok | herr
  · rw [hok] at ht
    exact Nat.le_antisymm hi.wins_le (ht ▸ hi.applied_le)
  · rw [herr] at ht
    rw [hi.wins_started, show s.started = true from ht]
    rfl

/-- **losers_touch_nothing.** The step taken by a caller that loses the election changes neither
    `applied` nor the flag. -/
theorem losers_touch_nothing {s s' : State} {t : Nat} (h : step s (.cas t) = some s')
    (hlost : s'.pc t = .returnedErr) : s'.applied = s.applied ∧ s'.started = s.started := by
  dsimp only [step] at h
  split at h
  · split at h <;> cases h
    · exact ⟨rfl, rfl⟩
    · exact absurd ((if_pos rfl).symm.trans hlost) nofun
  · cases h

/-- **untouched_before_execute.** Before any election nothing has been applied. -/
theorem untouched_before_execute (as : List Act) (s : State) (h : run init as = some s)
    (hs : s.started = false) : s.applied = 0 :=
  (inv_run inv_init h).applied_zero hs

/-- Non-vacuity: three callers race; one runs the block, two get the error. -/
example : (run init [.call 0, .call 1, .call 2, .cas 1, .cas 0, .body 1, .cas 2]).map
    (fun s => (s.applied, s.pc 0, s.pc 1, s.pc 2)) =
    some (1, .returnedErr, .returnedOk, .returnedErr) := by decide

/-! ### why the election must be ONE read-modify-write (the shape of seeded change C14g) -/

/-- The election split into a load and a later store (`if started.load() { err } else
    { started.store(true) }`): a caller that has loaded `false` stores and runs regardless of what
    happened in between. -/
inductive SplitAct where
  | call (t : Nat)
  | load (t : Nat)
  | store (t : Nat)
  | body (t : Nat)
  deriving DecidableEq, Repr

structure SplitState where
  base : State
  /-- callers that have loaded `false` and not yet stored -/
  sawFalse : Nat → Bool

def splitStep (s : SplitState) : SplitAct → Option SplitState
  | .call t => (step s.base (.call t)).map fun b => { s with base := b }
  | .load t => match s.base.pc t with
      | .electing =>
          if s.sawFalse t then none
          else if s.base.started then some { s with base := setPc s.base t .returnedErr }
          else some { s with sawFalse := fun u => if u = t then true else s.sawFalse u }
      | _ => none
  | .store t => match s.base.pc t with
      | .electing =>
          if s.sawFalse t then
            some { base := setPc { s.base with started := true, wins := s.base.wins + 1 } t .running,
                   sawFalse := fun u => if u = t then false else s.sawFalse u }
          else none
      | _ => none
  | .body t => (step s.base (.body t)).map fun b => { s with base := b }

def splitRun (s : SplitState) : List SplitAct → Option SplitState
  | [] => some s
  | a :: as => match splitStep s a with
    | none => none
    | some s' => splitRun s' as

/-- **split_election_elects_two.** With the load and the store as two steps, two callers that
    both load before either stores are both elected and the block is applied twice — the
    interleaving the tight-race phase of the `once` harness produces on the real code. -/
theorem split_election_elects_two :
    (splitRun ⟨init, fun _ => false⟩
      [.call 0, .call 1, .load 0, .load 1, .store 0, .store 1, .body 0, .body 1]).map
      (fun s => (s.base.wins, s.base.applied, s.base.pc 0, s.base.pc 1)) =
    some (2, 2, .returnedOk, .returnedOk) := by decide

/-- …while successive calls are still refused, which is why tests that call one after another
    cannot see it. -/
theorem split_election_sequential_ok :
    (splitRun ⟨init, fun _ => false⟩
      [.call 0, .load 0, .store 0, .body 0, .call 1, .load 1]).map
      (fun s => (s.base.wins, s.base.applied, s.base.pc 0, s.base.pc 1)) =
    some (1, 1, .returnedOk, .returnedErr) := by decide

end Grevm.RunOnce
