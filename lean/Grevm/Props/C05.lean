/-
C05 — every execution terminates: the part that is a safety property of the models.

* `progress`: no reachable state of the pipeline model (`Model/Sched.lean`) is stuck before the
  whole block is committed: some action is enabled.  Together with `Props/C16`
  (`claimable_covered`, `claimable_quiescent`, `edge_covered`: no transaction waits on an edge nobody
  will release, no claimable transaction is hidden from the claim cursor), `Props/C15`
  (`no_skip`, `rewind_reoffers`: the validation cursor re-offers every index that needs it) and
  `Props/C17` (`no_lost_wakeup`: a coordinator never sleeps through a notification) this rules out
  deadlock.  Fair termination itself (no livelock) is not a theorem here: the model lets the
  scheduler re-claim work arbitrarily; it is decided by the controller exploration (DESIGN.md).
-/
import Grevm.Lemmas.SchedInv5

namespace Grevm.Sched

open Grevm.Block

/-- `a` is `finalize` or an action of the worker inside transaction `i`. -/
private def Concerns (i : TxId) : Act → Prop
  | .finalize => True
  | .commit => False
  | .claimExec j | .execRead j | .execFetch j | .execFinish j | .publishOne j _ | .endPublish j
  | .removeOne j _ | .recordResult j _ | .markOne j _ | .endErrMark j | .tailTs j | .tailLts j
  | .claimVal j | .valTs j | .valCheck j _ | .endScan j | .endValMark j => j = i

private theorem pack {P : Params} {s : State} {i : TxId} (a : Act)
    (he : ∃ s', step P s a = some s') (hc : Concerns i a) :
    ∃ a s', step P s a = some s' ∧ Concerns i a := by
  obtain ⟨s', hs'⟩ := he
  exact ⟨a, s', hs', hc⟩

/-- Every transaction that is not final can move: the worker holding it can always take its next
    step, and when nobody holds it, it can be claimed for execution or validation.  (`step.eq_def`
    unfolds `step` in one piece; for `simp [step]` Lean first generates an equation lemma for every
    branch, which is dear.) -/
private theorem tx_enabled {P : Params} {s : State} (i1 : Inv1 P s) (i2 : Inv2 s) (i : TxId)
    (hin : i < P.n) (hnf : s.status i ≠ .finality) :
    ∃ a s', step P s a = some s' ∧ Concerns i a := by
  have hsh := (i2 i).shape
  cases hp : s.phase i with
  | idle =>
    have hst := i1.st_phase i; rw [hp] at hst
    cases hs : s.status i with
    | initial | conflict => exact pack (.claimExec i) (by simp [step.eq_def, hin, hp, hs]) rfl
    | executed | unconfirmed => exact pack (.claimVal i) (by simp [step.eq_def, hp, hs]) rfl
    | executing => exact absurd hs hst.1
    | validating => exact absurd hs hst.2
    | finality => exact absurd hs hnf
  | reading p reads blocked =>
    cases p with
    | read l k =>
      refine pack (.execRead i) ?_ rfl
      simp only [step.eq_def, hp]
      split <;> exact ⟨_, rfl⟩
    | done | fail => exact pack (.execFinish i) (by simp [step.eq_def, hp]) rfl
  | fetching l k reads blocked =>
    exact pack (.execFetch i) (by simp [step.eq_def, hp]) rfl
  | publishing run todo nl =>
    cases todo with
    | nil => exact pack (.endPublish i) (by simp [step.eq_def, hp]) rfl
    | cons l rest =>
      simp only [Shape, hp] at hsh
      obtain ⟨done, hcov, _⟩ := hsh
      have hmem : l ∈ writeLocs run.writes := (hcov l).mpr (Or.inr List.mem_cons_self)
      obtain ⟨v, hv⟩ := mem_writeLocs_iff_lookup.mp hmem
      exact pack (.publishOne i l) (by simp [step.eq_def, hp, hv]) rfl
  | removing run todo nl =>
    cases todo with
    | nil =>
      cases hb : run.blocked <;>
        exact pack (.recordResult i true) (by simp [step.eq_def, hp, hb]) rfl
    | cons l rest => exact pack (.removeOne i l) (by simp [step.eq_def, hp]) rfl
  | errMark e ow todo =>
    cases todo with
    | nil => exact pack (.endErrMark i) (by simp [step.eq_def, hp]) rfl
    | cons l rest =>
      refine pack (.markOne i l) ?_ rfl
      simp only [step.eq_def, hp, List.mem_cons, true_or, if_true]
      split <;> exact ⟨_, rfl⟩
  | valPreTs =>
    simp only [Shape, hp] at hsh
    obtain ⟨r, hr, _⟩ := hsh
    exact pack (.valTs i) (by simp [step.eq_def, hp, hr]) rfl
  | valScan ts done todo c =>
    cases todo with
    | nil =>
      cases c <;> exact pack (.endScan i) (by simp [step.eq_def, hp]) rfl
    | cons r rest => exact pack (.valCheck i 0) (by simp [step.eq_def, hp]) rfl
  | valMark todo =>
    cases todo with
    | nil => exact pack (.endValMark i) (by simp [step.eq_def, hp]) rfl
    | cons l rest =>
      refine pack (.markOne i l) ?_ rfl
      simp only [step.eq_def, hp, List.mem_cons, true_or, if_true]
      split <;> exact ⟨_, rfl⟩
  | tailPreTs k st =>
    by_cases hk : k < P.n <;> exact pack (.tailTs i) (by simp [step.eq_def, hp, hk]) rfl
  | tailLts k ts st => exact pack (.tailLts i) (by simp [step.eq_def, hp]) rfl

/-- The action can be chosen for the first uncommitted or unfinalised transaction: nothing ahead of
    the commit boundary can block it (the worker holding it can always take its next step, and when
    nobody holds it, it can be claimed, validated, finalised or committed). -/
theorem head_progress (P : Params) (s : State) (h : Reachable P s) (hn : s.com < P.n) :
    (s.com < s.fin ∧ ∃ s', step P s .commit = some s') ∨
    (s.com = s.fin ∧ s.fin < P.n ∧
      ∃ a s', step P s a = some s' ∧
        (a = .finalize ∨ a = .claimExec s.fin ∨ a = .claimVal s.fin ∨ a = .execRead s.fin ∨
         a = .execFetch s.fin ∨ a = .execFinish s.fin ∨ (∃ l, a = .publishOne s.fin l) ∨
         a = .endPublish s.fin ∨
         (∃ l, a = .removeOne s.fin l) ∨ (∃ b, a = .recordResult s.fin b) ∨
         (∃ l, a = .markOne s.fin l) ∨ a = .endErrMark s.fin ∨ a = .tailTs s.fin ∨
         a = .tailLts s.fin ∨ a = .valTs s.fin ∨ (∃ k, a = .valCheck s.fin k) ∨
         a = .endScan s.fin ∨ a = .endValMark s.fin)) := by
  obtain ⟨i1, i2, _, _, i5⟩ := inv_reachable h
  by_cases hlt : s.com < s.fin
  · left
    obtain ⟨r, hr, _⟩ := i5.exact s.com hlt
    exact ⟨hlt, by simp [step.eq_def, hlt, hr]⟩
  · right
    have hcf : s.com = s.fin := Nat.le_antisymm i1.com_le.1 (Nat.le_of_not_lt hlt)
    have hfn : s.fin < P.n := hcf ▸ hn
    obtain ⟨a, s', hs', hc⟩ :=
      tx_enabled i1 i2 s.fin hfn (mt (i1.fin_status s.fin).mp (Nat.lt_irrefl _))
    refine ⟨hcf, hfn, a, s', hs', ?_⟩
    cases a <;> cases hc <;>
      simp only [true_or, or_true, exists_eq', true_and, Act.publishOne.injEq, Act.removeOne.injEq,
        Act.recordResult.injEq, Act.markOne.injEq, Act.valCheck.injEq]

/-- **progress.** In every reachable state in which some transaction is not yet committed, some
    action of the pipeline is enabled. -/
theorem progress (P : Params) (s : State) (h : Reachable P s) (hn : s.com < P.n) :
    ∃ a s', step P s a = some s' := by
  rcases head_progress P s h hn with ⟨_, s', hs'⟩ | ⟨_, _, a, s', hs', _⟩
  · exact ⟨.commit, s', hs'⟩
  · exact ⟨a, s', hs'⟩

end Grevm.Sched
