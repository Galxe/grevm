/-
C08 — in-block account deletion, creation and storage reset are seen correctly.
C09's code part is in `Props/C09.lean`.  Model: `Grevm/Model/Repr.lean`.

Each reader is a fold over the block prefix: reading at `i + 1` is what transaction `i` published,
else the read at `i` (`read*_succ`, for any multi-version memory).  The logical state is such a fold
by definition, so a representation theorem is one induction whose step is a fact about ONE
`publishAcct` against ONE `commitL` (`publish_stor`, `publish_basic`, `publish_code`).
-/
import Grevm.Model.Repr

namespace Grevm.Repr

theorem latest_lt {α : Type} {f : Nat → Option α} :
    ∀ {i j : Nat} {v : α}, latest f i = some (j, v) → j < i ∧ f j = some v := by
  intro i
  induction i with
  | zero => intro j v h; cases h
  | succ i ih =>
    intro j v h
    unfold latest at h
    split at h
    · cases h; exact ⟨Nat.lt_succ_self _, by assumption⟩
    · exact ⟨Nat.lt_succ_of_lt (ih h).1, (ih h).2⟩

/-! ### the readers, one transaction at a time -/

theorem readBasic_succ (mv : Nat → Published) (base : LState) (i a : Nat) :
    readBasic mv base (i + 1) a = ((mv i).basic a).getD (readBasic mv base i a) := by
  simp only [readBasic, latest]; cases (mv i).basic a <;> rfl

theorem readCode_succ (mv : Nat → Published) (i a h : Nat) :
    readCode mv (i + 1) a h = ((mv i).code a).getD (readCode mv i a h) := by
  simp only [readCode, latest]; cases (mv i).code a <;> rfl

/-- A slot version of transaction `i` wins; else its reset marker masks everything older (older
    versions have an index below `i`, which is what the `≥` comparison of the reader tests). -/
theorem readStorage_succ (mv : Nat → Published) (base : LState) (i a k : Nat) :
    readStorage mv base (i + 1) a k =
      ((mv i).slot a k).getD (if (mv i).reset a then 0 else readStorage mv base i a k) := by
  rw [readStorage, latest, latest]
  cases (mv i).slot a k <;> cases (mv i).reset a
  · rfl
  · cases h : latest (fun j => (mv j).slot a k) i with
    | none => rfl
    | some p => exact if_neg (Nat.not_le.mpr (latest_lt h).1)
  · cases h : latest (fun j => if (mv j).reset a then some () else none) i with
    | none => rfl
    | some p => exact if_pos (Nat.le_of_lt (latest_lt h).1)
  · exact if_pos (Nat.le_refl i)

theorem readStorage_mvOf_succ (base : LState) (txs : Nat → TxChanges) (sb cc : Nat → Nat → Bool)
    (i a k : Nat) :
    readStorage (mvOf txs sb cc) base (i + 1) a k =
      ((publishAcct (txs i a) (sb i a) (cc i a)).2.2.1 k).getD
        (if (publishAcct (txs i a) (sb i a) (cc i a)).2.1 then 0
         else readStorage (mvOf txs sb cc) base i a k) :=
  readStorage_succ ..

/-! ### what one account change publishes, against what it commits -/

theorem publish_stor {s : LState} {a k : Nat} {ch : Change} {sb cc : Bool} :
    ((publishAcct ch sb cc).2.2.1 k).getD (if (publishAcct ch sb cc).2.1 then 0 else s.stor a k)
      = (commitL s a ch).stor a k := by
  cases ch with
  | unchanged => rfl
  -- what is left of `commitL` is its test `a = a`
  | _ => exact (if_pos rfl).symm

/-- **repr_storage.** For every block (any sequence of finalized journal states), every reader
    position `i`, address and slot: the storage read through the multi-version representation —
    newest of (reset marker, slot version), the reset masking older slots and the backing store,
    the creating transaction's own slots winning the `>=` tie — equals the slot of the logical
    state that in-order execution has after committing transactions `0..i-1`. -/
theorem repr_storage (base : LState) (txs : Nat → TxChanges) (skipBasic codeChanged : Nat → Nat → Bool) :
    ∀ (i a k : Nat),
      readStorage (mvOf txs skipBasic codeChanged) base i a k = (logical base txs i).stor a k := by
  intro i
  induction i with
  | zero => intro a k; rfl
  | succ i ih => intro a k; rw [readStorage_mvOf_succ, ih]; exact publish_stor

/-- Well-formedness of the "skip the Basic publication" decision: it is taken only when the
    account the transaction read (the in-order pre-state, by validation) has the same fields and
    code as its post-state. -/
def SkipOk (base : LState) (txs : Nat → TxChanges) (skipBasic codeChanged : Nat → Nat → Bool) : Prop :=
  ∀ j a info slots, skipBasic j a = true → codeChanged j a = false →
    (txs j a = .created info slots ∨ txs j a = .updated info slots) →
    (logical base txs j).acct a = some info

/-- The Basic entry may be withheld only where the account already is what would be published. -/
theorem publish_basic {s : LState} {a : Nat} {ch : Change} {sb cc : Bool}
    (hskip : ∀ info slots, sb = true → cc = false →
      (ch = .created info slots ∨ ch = .updated info slots) → s.acct a = some info) :
    ((publishAcct ch sb cc).1).getD (s.acct a) = (commitL s a ch).acct a := by
  cases ch with
  | unchanged => rfl
  | deleted => exact (if_pos rfl).symm
  | created info slots | updated info slots =>
    -- the commit writes `some info`; the entry is withheld only for `sb = true`, `cc = false`
    refine Eq.trans ?_ (if_pos rfl).symm
    cases sb <;> cases cc
    case true.false => exact hskip info slots rfl rfl (by simp)
    all_goals rfl

/-- **repr_basic.** The account read through the representation equals the logical account —
    in particular `none` after a deletion and the created info after a (re-)creation. -/
theorem repr_basic (base : LState) (txs : Nat → TxChanges) (skipBasic codeChanged : Nat → Nat → Bool)
    (hskip : SkipOk base txs skipBasic codeChanged) :
    ∀ (i a : Nat), readBasic (mvOf txs skipBasic codeChanged) base i a = (logical base txs i).acct a := by
  intro i
  induction i with
  | zero => intro a; rfl
  | succ i ih =>
    intro a; rw [readBasic_succ, ih]
    exact publish_basic (hskip i a)

/-- The one fact about revm the skip relies on: code never goes from non-empty to empty while nonce
    and balance both stay the same (SELFDESTRUCT deletes the account; clearing an EIP-7702
    delegation bumps the authority nonce). Monitored by the differential runs. -/
def ClearBumps (base : LState) (txs : Nat → TxChanges) : Prop :=
  ∀ j a info pre, (txs j a).info? = some info → (logical base txs j).acct a = some pre →
    pre.fields = info.fields → info.code = 0 → pre.code = 0

theorem info?_of_change {ch : Change} {info : Info} {slots : List (Nat × Nat)}
    (h : ch = .created info slots ∨ ch = .updated info slots) : ch.info? = some info := by
  rcases h with rfl | rfl <;> rfl

theorem skipOk_real (base : LState) (txs : Nat → TxChanges) (h : ClearBumps base txs) :
    SkipOk base txs (skipReal base txs) (codeChangedReal base txs) := by
  intro j a info slots hs hc hch
  have hinfo := info?_of_change hch
  cases hp : (logical base txs j).acct a with
  | none => simp [skipReal, hinfo, hp] at hs
  | some pre =>
    simp only [skipReal, hinfo, hp, beq_iff_eq] at hs
    simp only [codeChangedReal, hinfo, hp, Bool.and_eq_false_iff, bne_eq_false_iff_eq] at hc
    have hcode : pre.code = info.code := by
      rcases hc with hc | hc
      · rw [hc]; exact h j a info pre hinfo hp hs hc
      · exact hc
    cases pre; cases info; cases hs; cases hcode; rfl

/-- **repr_basic for the decisions the code makes** — no hypothesis on the publication left. -/
theorem repr_basic_real (base : LState) (txs : Nat → TxChanges) (h : ClearBumps base txs) (i a : Nat) :
    readBasic (mvOf txs (skipReal base txs) (codeChangedReal base txs)) base i a
      = (logical base txs i).acct a :=
  repr_basic base txs _ _ (skipOk_real base txs h) i a

/-- After a transaction deletes an account (SELFDESTRUCT or EIP-161 empty-touch), the next reader
    sees no account and zero in every slot, whatever the backing store holds. -/
theorem deleted_then_zero (base : LState) (txs : Nat → TxChanges) (sb cc : Nat → Nat → Bool)
    (i a k : Nat) (h : txs i a = .deleted) :
    readStorage (mvOf txs sb cc) base (i + 1) a k = 0 := by
  rw [readStorage_mvOf_succ, h]; rfl

/-- After a (re-)creation the next reader sees exactly the slots written by the creating
    transaction and zero elsewhere. -/
theorem created_then_only_own_slots (base : LState) (txs : Nat → TxChanges) (sb cc : Nat → Nat → Bool)
    (i a k : Nat) (info : Info) (slots : List (Nat × Nat)) (h : txs i a = .created info slots) :
    readStorage (mvOf txs sb cc) base (i + 1) a k = (lookupSlot slots k).getD 0 := by
  rw [readStorage_mvOf_succ, h]; rfl

/-- An update that revm does not report as a destruction (e.g. post-Cancun SELFDESTRUCT of a
    pre-existing contract) keeps every untouched slot. -/
theorem updated_keeps_storage (base : LState) (txs : Nat → TxChanges) (sb cc : Nat → Nat → Bool)
    (i a k : Nat) (info : Info) (slots : List (Nat × Nat)) (h : txs i a = .updated info slots)
    (hk : lookupSlot slots k = none) :
    readStorage (mvOf txs sb cc) base (i + 1) a k = readStorage (mvOf txs sb cc) base i a k := by
  rw [readStorage_mvOf_succ, h]; show (lookupSlot slots k).getD _ = _; rw [hk]; rfl

/-- `FinalizedAccount::from`: untouched ⇒ unchanged; self-destructed wins over created; an empty
    touched account that is not created is deleted. -/
theorem classify_spec (t s c e : Bool) :
    classify t s c e =
      if t = false then 0 else if s = true then 1 else if c = true then 2 else if e = true then 1 else 3 := by
  cases t <;> rfl

/-- Non-vacuity: slot 0 = 42 in the backing store; tx 0 destroys, tx 1 re-creates writing slot 1,
    tx 2 updates slot 0. -/
example :
    let base : LState := { acct := fun _ => some ⟨1, 7⟩, stor := fun _ k => if k = 0 then 42 else 0 }
    let txs : Nat → TxChanges := fun j a =>
      if a ≠ 5 then .unchanged
      else if j = 0 then .deleted
      else if j = 1 then .created ⟨2, 8⟩ [(1, 9)]
      else if j = 2 then .updated ⟨3, 8⟩ [(0, 11)]
      else .unchanged
    let mv := mvOf txs (fun _ _ => false) (fun _ _ => false)
    (readStorage mv base 0 5 0, readStorage mv base 1 5 0, readStorage mv base 2 5 1,
      readStorage mv base 2 5 0, readStorage mv base 3 5 0, readStorage mv base 3 5 1) =
      (42, 0, 9, 0, 11, 9) := by decide

/-- **reset_marker_needed** (necessity; the shape of seeded change C08e, which drops the marker
    when the account is the fee recipient).  tx 0 writes slot 1 := 7, tx 1 destroys the account,
    tx 2 re-creates it with a constructor that writes only slot 0.  With the StorageReset markers
    a later read of slot 1 sees 0, as the logical state does; with the markers withheld it sees
    the value written before the destruction. -/
theorem reset_marker_needed :
    let base : LState := { acct := fun _ => some ⟨1, 7⟩, stor := fun _ _ => 0 }
    let txs : Nat → TxChanges := fun j a =>
      if a ≠ 5 then .unchanged
      else if j = 0 then .updated ⟨1, 7⟩ [(1, 7)]
      else if j = 1 then .deleted
      else if j = 2 then .created ⟨2, 8⟩ [(0, 3)]
      else .unchanged
    let mv := mvOf txs (fun _ _ => false) (fun _ _ => false)
    let mvNoReset : Nat → Published := fun j => { mv j with reset := fun _ => false }
    (logical base txs 3).stor 5 1 = 0 ∧
    readStorage mv base 3 5 1 = 0 ∧
    readStorage mvNoReset base 3 5 1 = 7 := by
  decide

end Grevm.Repr
