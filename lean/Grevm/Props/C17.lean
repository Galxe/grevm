/-
C17 — coordinator notifications are never lost.  Model: `Grevm/Model/WaitSlot.lean`.
-/
import Grevm.Model.WaitSlot

namespace Grevm.WaitSlot

def Pending (s : State) (j : Nat) : Prop := s.npc j = .published ∨ s.npc j = .unparking

structure Inv (s : State) : Prop where
  reg : s.wpc ≠ .start → s.registered = true
  wake : s.wpc = .park → s.ready = true → s.token = true ∨ ∃ j, Pending s j

theorem inv_init : Inv init := ⟨nofun, nofun⟩

theorem setN_same (s : State) (j : Nat) (p : NPc) : (setN s j p).npc j = p := if_pos rfl

theorem inv_step {s s' : State} {a : Act} (hi : Inv s) (h : step s a = some s') : Inv s' := by
  revert h
  -- one goal for each branch of `step` that returns `some`, in the order of its definition
  fun_cases step s a <;> intro h <;> cases h
  -- start: register
  · exact ⟨fun _ => rfl, nofun⟩
  -- check1, ready
  · next hw _ => exact ⟨fun _ => hi.reg (hw ▸ nofun), nofun⟩
  -- check1
  · next hw _ => exact ⟨fun _ => hi.reg (hw ▸ nofun), nofun⟩
  -- check2, ready
  · next hw _ => exact ⟨fun _ => hi.reg (hw ▸ nofun), nofun⟩
  -- check2: park
  · next hw hready => exact ⟨fun _ => hi.reg (hw ▸ nofun), fun _ h => absurd h hready⟩
  -- park: consume the token
  · next hw _ => exact ⟨fun _ => hi.reg (hw ▸ nofun), nofun⟩
  -- nPublish
  · next j _ _ => exact ⟨hi.reg, fun _ _ => .inr ⟨j, .inl (setN_same ..)⟩⟩
  -- nStep, waiter registered: will unpark
  · next j _ _ => exact ⟨hi.reg, fun _ _ => .inr ⟨j, .inr (setN_same ..)⟩⟩
  -- nStep, nobody registered
  · next hreg => exact ⟨hi.reg, fun hpark _ => absurd (hi.reg (hpark ▸ nofun)) hreg⟩
  -- nStep: unpark
  · exact ⟨hi.reg, fun _ _ => .inl rfl⟩

theorem inv_run {as : List Act} {s s' : State} (hi : Inv s) (h : run s as = some s') : Inv s' := by
  induction as generalizing s with
  | nil => cases h; exact hi
  | cons a as ih =>
    rw [run] at h
    split at h
    · cases h
    · next hs => exact ih (inv_step hi hs) h

/-- **no_lost_wakeup.** In every reachable state — any number of producers, any interleaving of
    register / check / yield / check / park with publish / notify — a waiter that is parked while
    its condition holds has a token waiting or a producer whose `unpark` is still to come. -/
theorem no_lost_wakeup (as : List Act) (s : State) (h : run init as = some s)
    (hpark : s.wpc = .park) (hready : s.ready = true) :
    s.token = true ∨ ∃ j, Pending s j :=
  (inv_run inv_init h).wake hpark hready

/-- The two steps of a pending `notify`. -/
theorem nStep_published {s : State} {j : Nat} (hj : s.npc j = .published)
    (hreg : s.registered = true) : step s (.nStep j) = some (setN s j .unparking) := by
  simp only [step, hj, hreg, if_true]

theorem nStep_unparking {s : State} {j : Nat} (hj : s.npc j = .unparking) :
    step s (.nStep j) = some (setN { s with token := true } j .idle) := by
  simp only [step, hj]

/-- **delivery.** From such a state at most two further producer steps (no timer, no step of the
    waiter) make the park return: the stall timeout is never what wakes the waiter. -/
theorem wakeup_within_two_steps (as : List Act) (s : State) (h : run init as = some s)
    (hpark : s.wpc = .park) (hready : s.ready = true) :
    ∃ bs : List Act, bs.length ≤ 2 ∧ (∀ b ∈ bs, ∃ j, b = .nStep j) ∧
      ∃ s', run s bs = some s' ∧ s'.token = true ∧ s'.wpc = .park := by
  have hreg := (inv_run inv_init h).reg (hpark ▸ nofun)
  rcases no_lost_wakeup as s h hpark hready with ht | ⟨j, hj | hj⟩
  · exact ⟨[], Nat.zero_le _, List.forall_mem_nil _, s, rfl, ht, hpark⟩
  · refine ⟨[.nStep j, .nStep j], Nat.le_refl _,
      fun _ hb => ⟨j, List.eq_of_mem_replicate (n := 2) hb⟩, ?_⟩
    simp only [run, nStep_published hj hreg, nStep_unparking (setN_same ..)]
    exact ⟨_, rfl, rfl, hpark⟩
  · refine ⟨[.nStep j], Nat.le_succ _, fun _ hb => ⟨j, List.eq_of_mem_replicate (n := 1) hb⟩,
      ?_⟩
    simp only [run, nStep_unparking hj]
    exact ⟨_, rfl, rfl, hpark⟩

/-- A parked waiter holding a token is enabled, consumes it and re-examines its predicate. -/
theorem park_returns_to_check {s : State} (hpark : s.wpc = .park) (ht : s.token = true) :
    ∃ s', step s .wStep = some s' ∧ s'.wpc = .check1 := by
  simp [step, hpark, ht]

/-- Non-vacuity: the notification lands between the second check and the park. -/
example : (run init [.wStep, .wStep, .wStep, .nPublish 0 true, .nStep 0, .nStep 0, .wStep, .wStep]).map
    (fun s => (s.wpc, s.token)) = some (.done, false) := by decide

/-- Non-vacuity: the notification arrives before registration and is covered by the predicate. -/
example : (run init [.nPublish 0 true, .nStep 0, .wStep, .wStep]).map (fun s => s.wpc) =
    some .done := by decide

/-! ### No quiescent state short of `done` -/

/-- Only a producer's publish changes the condition. -/
theorem ready_changes_only_by_publish {s s' : State} {a : Act} (h : step s a = some s')
    (hne : ∀ j v, a ≠ .nPublish j v) : s'.ready = s.ready := by
  revert h hne
  -- every branch but that of `nPublish` returns `s` with other fields changed
  fun_cases step s a <;> intro h hne <;> cases h <;> first | rfl | exact absurd rfl (hne _ _)

/-- The waiter is never disabled except when parked without a token or finished. -/
theorem waiter_blocked_only_at_park {s : State} (hw : step s .wStep = none) :
    (s.wpc = .park ∧ s.token = false) ∨ s.wpc = .done := by
  dsimp only [step] at hw
  split at hw <;> (try split at hw) <;> cases hw
  · next hp ht => exact .inl ⟨hp, Bool.eq_false_iff.mpr ht⟩
  · next hd => exact .inr hd

/-- **no_deadlock.** A reachable state in which the condition holds and in which neither the
    waiter nor any producer's pending `notify` can take a step is a state in which the waiter has
    returned: the system never comes to rest with the coordinator parked on a true condition, so
    there is nothing for the stall timer to rescue. -/
theorem quiescent_implies_done (as : List Act) (s : State) (h : run init as = some s)
    (hready : s.ready = true) (hw : step s .wStep = none) (hn : ∀ j, step s (.nStep j) = none) :
    s.wpc = .done := by
  have hi := inv_run inv_init h
  obtain ⟨hpark, ht⟩ | hd := waiter_blocked_only_at_park hw
  · -- parked without a token: some `notify` is pending, and a pending `notify` can step
    obtain ht' | ⟨j, hj | hj⟩ := hi.wake hpark hready
    · exact absurd (ht ▸ ht') nofun
    · exact absurd ((nStep_published hj (hi.reg (hpark ▸ nofun))).symm.trans (hn j)) nofun
    · exact absurd ((nStep_unparking hj).symm.trans (hn j)) nofun
  · exact hd

/-- Non-vacuity of `quiescent_implies_done`: a quiescent reachable state with the condition set. -/
example : (run init [.wStep, .wStep, .wStep, .nPublish 0 true, .nStep 0, .nStep 0, .wStep, .wStep]).map
    (fun s => (s.ready, (step s .wStep).isNone, (step s (.nStep 0)).isNone)) =
      some (true, true, true) := by decide

end Grevm.WaitSlot
