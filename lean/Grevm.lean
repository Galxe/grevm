-- Root of the `Grevm` library: every model, lemma and property module.
import Grevm.Driver.Components
import Grevm.Driver.Repr
import Grevm.Driver.Small
import Grevm.Driver.Reserve
import Grevm.Driver.CacheConf
import Grevm.Driver.AcctConf
import Grevm.Props.C01
import Grevm.Props.C02
import Grevm.Props.C03
import Grevm.Props.C04
import Grevm.Props.C05
import Grevm.Props.C06
import Grevm.Props.C07
import Grevm.Props.C08
import Grevm.Props.C09
import Grevm.Props.C10
import Grevm.Props.C11
import Grevm.Props.C12
import Grevm.Props.C13
import Grevm.Props.C14
import Grevm.Props.C15
import Grevm.Props.C16
import Grevm.Props.C17
